/-
  M-CONV (integer fragment): builder/conversions.go set{Int,Uint}From{Int,Uint,BigInt}, on
  mathematical integers with Go's fixed-width stores modelled as wrap-around.
-/
namespace CE.Conv

/-- reflect.Value.SetInt on a w-bit signed destination followed by .Int(): two's complement wrap -/
def wrapS (w : Nat) (x : Int) : Int :=
  let m : Int := 2 ^ w
  let r := x % m
  if r < 2 ^ (w - 1) then r else r - m

/-- SetUint on a w-bit unsigned destination followed by .Uint() -/
def wrapU (w : Nat) (x : Int) : Int := x % 2 ^ w

def inS (w : Nat) (x : Int) : Prop := -(2 : Int) ^ (w - 1) ≤ x ∧ x < 2 ^ (w - 1)
def inU (w : Nat) (x : Int) : Prop := 0 ≤ x ∧ x < 2 ^ w

instance (w : Nat) (x : Int) : Decidable (inS w x) := by unfold inS; exact inferInstance
instance (w : Nat) (x : Int) : Decidable (inU w x) := by unfold inU; exact inferInstance

/-- setIntFromInt: store, then compare what was stored with the int64 source -/
def setIntFromInt (w : Nat) (v : Int) : Option Int :=
  if wrapS w v ≠ v then none else some (wrapS w v)

/-- setIntFromUint: UintToInt (error above MaxInt64), store, compare as uint64 -/
def setIntFromUint (w : Nat) (v : Int) : Option Int :=
  if v > 2 ^ 63 - 1 then none
  else if (wrapS w v) % 2 ^ 64 ≠ v then none else some (wrapS w v)

/-- setIntFromBigInt: BigIntToInt (error unless IsInt64), store, compare -/
def setIntFromBigInt (w : Nat) (v : Int) : Option Int :=
  if ¬ inS 64 v then none
  else if wrapS w v ≠ v then none else some (wrapS w v)

/-- setUintFromUint: store, compare -/
def setUintFromUint (w : Nat) (v : Int) : Option Int :=
  if wrapU w v ≠ v then none else some (wrapU w v)

/-- setUintFromInt: IntToUint (error if negative) then setUintFromUint -/
def setUintFromInt (w : Nat) (v : Int) : Option Int :=
  if v < 0 then none else setUintFromUint w v

/-- setUintFromBigInt: BigIntToUint (error unless IsUint64) then setUintFromUint -/
def setUintFromBigInt (w : Nat) (v : Int) : Option Int :=
  if ¬ inU 64 v then none else setUintFromUint w v

theorem two_pow_pred {w : Nat} (hw : 0 < w) : (2 : Int) ^ w = 2 * 2 ^ (w - 1) := by
  obtain ⟨k, rfl⟩ : ∃ k, w = k + 1 := ⟨w - 1, by omega⟩
  rw [Int.pow_succ, Nat.add_sub_cancel, Int.mul_comm]

/-- `wrapS` without its `let`s, so that proofs need not unfold them -/
theorem wrapS_eq (w : Nat) (x : Int) :
    wrapS w x = if x % 2 ^ w < 2 ^ (w - 1) then x % 2 ^ w else x % 2 ^ w - 2 ^ w := rfl

theorem wrapS_id (w : Nat) (hw : 0 < w) (x : Int) (h : inS w x) : wrapS w x = x := by
  obtain ⟨h1, h2⟩ := h
  have hp := two_pow_pred (w := w) hw
  rw [wrapS_eq]
  by_cases hx : 0 ≤ x
  · rw [Int.emod_eq_of_lt hx (by omega), if_pos h2]
  · have : x % 2 ^ w = x + 2 ^ w := by
      rw [← Int.add_emod_right, Int.emod_eq_of_lt (by omega) (by omega)]
    rw [this, if_neg (by omega)]; omega

theorem wrapS_range (w : Nat) (hw : 0 < w) (x : Int) : inS w (wrapS w x) := by
  have hp := two_pow_pred (w := w) hw
  have hpos : (0 : Int) < 2 ^ w := Int.pow_pos (by decide)
  have h0 := Int.emod_nonneg x (Int.ne_of_gt hpos)
  rw [wrapS_eq]; unfold inS
  split <;> constructor <;> omega

theorem wrapU_id (w : Nat) (x : Int) (h : inU w x) : wrapU w x = x :=
  Int.emod_eq_of_lt h.1 h.2

theorem wrapU_range (w : Nat) (x : Int) : inU w (wrapU w x) := by
  have hpos : (0 : Int) < 2 ^ w := Int.pow_pos (by decide)
  exact ⟨Int.emod_nonneg x (Int.ne_of_gt hpos), Int.emod_lt_of_pos x hpos⟩

theorem wrapS_eq_self (w : Nat) (hw : 0 < w) (v : Int) : wrapS w v = v ↔ inS w v :=
  ⟨fun h => h ▸ wrapS_range w hw v, wrapS_id w hw v⟩

theorem wrapU_eq_self (w : Nat) (v : Int) : wrapU w v = v ↔ inU w v :=
  ⟨fun h => h ▸ wrapU_range w v, wrapU_id w v⟩

/-- Go's "store, read back, compare" -/
theorem store_compare_iff {α : Type} [DecidableEq α] {wrap : α → α} {P : α → Prop}
    (hfix : ∀ v, wrap v = v ↔ P v) (v x : α) :
    (if wrap v ≠ v then none else some (wrap v)) = some x ↔ (x = v ∧ P v) := by
  by_cases h : wrap v = v
  · rw [if_neg (not_not_intro h), h, Option.some.injEq, eq_comm]
    exact (and_iff_left ((hfix v).1 h)).symm
  · rw [if_pos h]
    exact ⟨nofun, fun hx => absurd ((hfix v).2 hx.2) h⟩

theorem guard_iff {α : Type} {c : Prop} [Decidable c] {o : Option α} {x : α} {R : Prop} (ho : o = some x ↔ R)
    (hc : R → ¬ c) :
    (if c then none else o) = some x ↔ R := by
  by_cases h : c
  · rw [if_pos h]; exact ⟨nofun, fun r => absurd h (hc r)⟩
  · rw [if_neg h]; exact ho

end CE.Conv

import CE.Basic.Bytes
/-
  M-ARR: internal/arrays — typed slice ↔ little-endian bytes.  Elements are their unsigned
  bit patterns (Nat < 256^w): signedness and float interpretation do not affect the bytes.
  `fromLEAux` is `Cte.ArrEngine.blocks` followed by `leNat` on each group; CE/Cte/ArrEngineProofs.lean
  has the matching lemmas.
-/
namespace CE.Arr

/-- `<T>SliceAsBytes`: each element as w little-endian bytes -/
def toLE (w : Nat) : List Nat → Bytes
  | [] => []
  | x :: xs => leBytes w x ++ toLE w xs

/-- `BytesTo<T>Slice`: groups of w bytes (a trailing partial group is dropped, as
    `length := len(data) / w` does); fuel = number of elements -/
def fromLEAux (w : Nat) : Nat → Bytes → List Nat
  | 0, _ => []
  | n + 1, bs => leNat (bs.take w) :: fromLEAux w n (bs.drop w)

def fromLE (w : Nat) (bs : Bytes) : List Nat := if w = 0 then [] else fromLEAux w (bs.length / w) bs

theorem toLE_length (w : Nat) (xs : List Nat) : (toLE w xs).length = w * xs.length := by
  induction xs with
  | nil => rfl
  | cons x xs ih =>
    rw [toLE, List.length_append, leBytes_length, ih, List.length_cons, Nat.mul_succ, Nat.add_comm]

theorem fromLEAux_toLE (w : Nat) : ∀ (xs : List Nat), (∀ x ∈ xs, x < 256 ^ w) →
    fromLEAux w xs.length (toLE w xs) = xs
  | [], _ => rfl
  | x :: xs, h => by
    rw [List.length_cons, fromLEAux, toLE, List.take_left' (leBytes_length ..),
      List.drop_left' (leBytes_length ..), leNat_leBytes_lt w x (h x List.mem_cons_self),
      fromLEAux_toLE w xs fun y hy => h y (List.mem_cons_of_mem _ hy)]

theorem fromLE_toLE (w : Nat) (hw : 0 < w) (xs : List Nat) (h : ∀ x ∈ xs, x < 256 ^ w) :
    fromLE w (toLE w xs) = xs := by
  rw [fromLE, if_neg (Nat.ne_of_gt hw), toLE_length, Nat.mul_div_cancel_left _ hw]
  exact fromLEAux_toLE w xs h

theorem toLE_fromLEAux (w : Nat) : ∀ (n : Nat) (bs : Bytes), w * n ≤ bs.length →
    toLE w (fromLEAux w n bs) = bs.take (w * n)
  | 0, _, _ => rfl
  | n + 1, bs, h => by
    rw [Nat.mul_succ] at h
    have hb : leBytes w (leNat (bs.take w)) = bs.take w := by
      have := leBytes_leNat (bs.take w)
      rwa [List.length_take, Nat.min_eq_left (Nat.le_trans (Nat.le_add_left ..) h)] at this
    rw [fromLEAux, toLE, hb,
      toLE_fromLEAux w n (bs.drop w) (by rw [List.length_drop]; exact Nat.le_sub_of_add_le h), Nat.mul_succ, Nat.add_comm,
      List.take_add]

theorem toLE_fromLE_take (w : Nat) (bs : Bytes) :
    toLE w (fromLE w bs) = bs.take (w * (bs.length / w)) := by
  unfold fromLE
  split
  · subst w; rw [Nat.zero_mul, List.take_zero]; rfl
  · exact toLE_fromLEAux w _ bs (Nat.mul_div_le ..)

theorem toLE_fromLE (w : Nat) (hw : 0 < w) (bs : Bytes) (h : bs.length % w = 0) :
    toLE w (fromLE w bs) = bs := by
  rw [toLE_fromLE_take, Nat.mul_div_cancel' (Nat.dvd_of_mod_eq_zero h), List.take_length]

theorem fromLEAux_lt (w : Nat) : ∀ (n : Nat) (bs : Bytes), ∀ x ∈ fromLEAux w n bs, x < 256 ^ w := by
  intro n
  induction n with
  | zero => intro bs x hx; cases hx
  | succ n ih =>
    intro bs x hx
    rw [fromLEAux, List.mem_cons] at hx
    rcases hx with rfl | hx
    · exact Nat.lt_of_lt_of_le (leNat_lt _)
        (Nat.pow_le_pow_right (by decide) (List.length_take_le ..))
    · exact ih _ x hx

end CE.Arr

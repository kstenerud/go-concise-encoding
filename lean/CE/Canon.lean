import CE.Event
import CE.Basic.Float
/-
  `canon`: "carries the same data" (C01–C03, C06, C22, C23), defined from the property
  statements: numbers by value across event forms; ±0, ±inf and NaN kinds are value classes;
  other binary floats by bit pattern; arrays as (type, concatenated contents) whatever the
  chunking and whether whole or begin/chunk/data form; Boolean b ≡ True/False; nil big
  numbers ≡ null; padding dropped; comments dropped or kept (codec-specific).
-/
namespace CE

inductive CEv
  | tag (name : String) (id : Bytes)
  | version (v : Nat)
  | null | bool (b : Bool)
  | int (i : Int) | negZero | inf (neg : Bool) | nan (signaling : Bool)
  | f64 (bits : Nat)
  | dec (coeff : Int) (exp : Int)
  | bigf (x : BigF)
  | uid (b : Bytes) | time (t : TimeV)
  | arr (t : ArrT) (data : Bytes)
  | bits (bs : List Bool)
  | media (mt data : Bytes)
  | custom (text : Bool) (ty : Nat) (data : Bytes)
  | comment (multi : Bool) (s : Bytes)
  | malformed (why : String)
deriving DecidableEq, Repr, Inhabited

/-- strip trailing decimal zeros of a non-zero coefficient (fuel = number of digits bound) -/
def stripZeros : Nat → Int → Int → Int × Int
  | 0, c, e => (c, e)
  | f + 1, c, e => if c ≠ 0 ∧ c % 10 = 0 then stripZeros f (c / 10) (e + 1) else (c, e)

def canonDec (c e : Int) : CEv :=
  if c = 0 then .int 0
  else
    let (c', e') := stripZeros (c.natAbs + 1) c e
    -- an integer-valued decimal is that integer (numbers are compared by mathematical value)
    if e' ≥ 0 then .int (c' * 10 ^ e'.toNat) else .dec c' e'

def canonFloat (b : Nat) : CEv :=
  if F.isNaN64 b then .nan (!F.quiet64 b)
  else if F.isInf64 b then .inf (F.sign64 b == 1)
  else if F.isZero64 b then (if F.sign64 b == 1 then .negZero else .int 0)
  else .f64 b

def canonBigF : BigF → CEv
  | .inf neg => .inf neg
  | .val neg m e p =>
    match F.ofMantExp? neg m e with
    | some b => canonFloat b
    | none => .bigf (.val neg m e p)

def canonDF : DF → CEv
  | .zero => .int 0 | .negZero => .negZero | .inf => .inf false | .negInf => .inf true
  | .nan => .nan false | .snan => .nan true
  | .val e c => canonDec c e

def canonBigDec : BigDec → CEv
  | .val neg c e => if c = 0 then (if neg then .negZero else .int 0)
                    else canonDec (if neg then -(c : Int) else c) e
  | .inf neg => .inf neg | .nan => .nan false | .snan => .nan true

/-- bits of a chunk: low `n` bits, least significant bit of each byte first -/
def bitsOf : Nat → Bytes → List Bool
  | 0, _ => []
  | _, [] => []
  | n + 1, b :: bs =>
    let k := min (n + 1) 8
    (List.range k).map (fun i => b.toNat / 2 ^ i % 2 == 1) ++ bitsOf (n + 1 - k) bs
termination_by n _ => n
decreasing_by omega

/-- split the concatenated data of a bit array by chunk and read each chunk's bits -/
def bitsByChunk : List Nat → Bytes → List Bool
  | [], _ => []
  | n :: ns, d => let k := (n + 7) / 8; bitsOf n (d.take k) ++ bitsByChunk ns (d.drop k)

def canonArr (t : ArrT) (chunks : List Nat) (data : Bytes) : CEv :=
  match t with
  | .bit => .bits (bitsByChunk chunks data)
  | _ => .arr t data

/-- gather chunk and data events following a begin event -/
def gather : List Ev → List Nat → Bytes → List Nat × Bytes × List Ev
  | .arrayChunk n _ :: es, cs, d => gather es (cs ++ [n]) d
  | .arrayData x :: es, cs, d => gather es cs (d ++ x)
  | es, cs, d => (cs, d, es)

theorem gather_length (es : List Ev) (cs : List Nat) (d : Bytes) :
    (gather es cs d).2.2.length ≤ es.length := by
  fun_induction gather es cs d with
  | case1 n _ es cs d ih | case2 x es cs d ih => exact Nat.le_succ_of_le ih
  | case3 => exact Nat.le_refl _

def canon (keepComments : Bool) : List Ev → List CEv
  | [] => []
  | e :: es =>
    match e with
    | .beginDoc => .tag "bd" [] :: canon keepComments es
    | .endDoc => .tag "ed" [] :: canon keepComments es
    | .version v => .version v :: canon keepComments es
    | .padding => canon keepComments es
    | .comment m s => if keepComments then .comment m s :: canon keepComments es else canon keepComments es
    | .null => .null :: canon keepComments es
    | .bool b => .bool b :: canon keepComments es
    | .true_ => .bool true :: canon keepComments es
    | .false_ => .bool false :: canon keepComments es
    | .posInt n => .int n :: canon keepComments es
    | .negInt n => (if n = 0 then .negZero else .int (-(n : Int))) :: canon keepComments es
    | .int i => .int i :: canon keepComments es
    | .bigInt none => .null :: canon keepComments es
    | .bigInt (some i) => .int i :: canon keepComments es
    | .float b => canonFloat b :: canon keepComments es
    | .bigFloat none => .null :: canon keepComments es
    | .bigFloat (some x) => canonBigF x :: canon keepComments es
    | .dfloat d => canonDF d :: canon keepComments es
    | .bigDecimal none => .null :: canon keepComments es
    | .bigDecimal (some d) => canonBigDec d :: canon keepComments es
    | .uid b => .uid b :: canon keepComments es
    | .nan s => .nan s :: canon keepComments es
    | .time t => .time t :: canon keepComments es
    | .list => .tag "l" [] :: canon keepComments es
    | .map => .tag "m" [] :: canon keepComments es
    | .recordType id => .tag "rt" id :: canon keepComments es
    | .record id => .tag "r" id :: canon keepComments es
    | .edge => .tag "e" [] :: canon keepComments es
    | .node => .tag "nd" [] :: canon keepComments es
    | .endContainer => .tag "end" [] :: canon keepComments es
    | .marker id => .tag "mk" id :: canon keepComments es
    | .refLocal id => .tag "ref" id :: canon keepComments es
    | .array t c d => canonArr t [c] d :: canon keepComments es
    | .stringlike t s => .arr t s :: canon keepComments es
    | .media mt d => .media mt d :: canon keepComments es
    | .customBinary ty d => .custom false ty d :: canon keepComments es
    | .customText ty s => .custom true ty s :: canon keepComments es
    | .arrayBegin t =>
      have := gather_length es [] []
      let g := gather es [] []
      canonArr t g.1 g.2.1 :: canon keepComments g.2.2
    | .mediaBegin mt =>
      have := gather_length es [] []
      let g := gather es [] []
      .media mt g.2.1 :: canon keepComments g.2.2
    | .customBegin t ty =>
      have := gather_length es [] []
      let g := gather es [] []
      .custom (t == .customText) ty g.2.1 :: canon keepComments g.2.2
    | .arrayChunk _ _ => .malformed "stray chunk" :: canon keepComments es
    | .arrayData _ => .malformed "stray data" :: canon keepComments es
termination_by es => es.length
decreasing_by all_goals simp_wf <;> omega


/-- a NaN array element keeps only its kind in CTE (`nan` / `snan`): canonical element per width -/
def canonNaNElem (w : Nat) (e : Nat) : Nat :=
  let (expMask, fracMask, quietBit, qnan, snan) : Nat × Nat × Nat × Nat × Nat :=
    if w = 2 then (0x7f80, 0x7f, 0x40, 0x7fc0, 0x7f81)
    else if w = 4 then (0x7f800000, 0x7fffff, 0x400000, 0x7fc00000, 0x7f800001)
    else (0x7ff0000000000000, 0xfffffffffffff, 0x8000000000000, 0x7ff8000000000000, 0x7ff0000000000001)
  if e &&& expMask = expMask ∧ e &&& fracMask ≠ 0 then (if e &&& quietBit ≠ 0 then qnan else snan) else e

def canonNaNBytes (w : Nat) : Nat → Bytes → Bytes
  | 0, d => d
  | fuel + 1, d =>
    if d.length < w then d
    else leBytes w (canonNaNElem w (leNat (d.take w))) ++ canonNaNBytes w fuel (d.drop w)

/-- the text format's notion of "same data": as `canon`, and NaN elements of float arrays by kind -/
def canonText (keepComments : Bool) (evs : List Ev) : List CEv :=
  (canon keepComments evs).map fun c =>
    match c with
    | .arr .f16 d => .arr .f16 (canonNaNBytes 2 d.length d)
    | .arr .f32 d => .arr .f32 (canonNaNBytes 4 d.length d)
    | .arr .f64 d => .arr .f64 (canonNaNBytes 8 d.length d)
    | c => c

end CE

import CE.Cte.ArrEngineProofs
/-
  C23 — CTE output depends only on the data.

  The encoder writes a typed array as header ++ elements ++ "]", the elements coming from
  `arrayEncoderEngine.AddArrayData`, which carries a partial element over from one data event
  to the next.  Theorems over the model of that engine (CE/Cte/ArrEngine.lean), for every
  element width (the model takes the remainder with `%`; the Go code with `& (width-1)`, its
  widths being powers of two) and EVERY division of the array's bytes into data events (mid-element splits
  and empty events included):
  * `elements_depend_only_on_bytes` — the list of elements handed to the element writer, and
    the incomplete tail kept back, are those of the concatenated bytes;
  * `rechunking_preserves_elements` — two divisions of the same bytes give the same elements,
    hence the same text (the element writer is a function of the element, CE/Cte/ArrFmt.lean);
  * `nothing_lost_or_invented` — elements ++ tail is exactly the bytes received.
  The string-like, bit, media and custom arrays, the layout decorators and the second sentence
  of the property (decode→encode reproduces the text) are decided by the oracle of
  `bin/check C23`; the engine + format models are tied to the encoder by CTE.ENGINE.
-/
namespace CE.Props.C23
open CE CE.Cte.ArrEngine

theorem elements_depend_only_on_bytes (w : Nat) (hw : 0 < w) (dataEvents : List Bytes) :
    (feed w dataEvents).out = (groups w dataEvents.flatten).1 ∧
    (feed w dataEvents).leftover = (groups w dataEvents.flatten).2 := by
  have h := feed_inv hw dataEvents
  rw [← h.all, groups_unique hw h.elems h.short]
  exact ⟨rfl, rfl⟩

theorem rechunking_preserves_elements (w : Nat) (hw : 0 < w) (ds ds' : List Bytes)
    (h : ds.flatten = ds'.flatten) : (feed w ds).out = (feed w ds').out := by
  rw [(elements_depend_only_on_bytes w hw ds).1, (elements_depend_only_on_bytes w hw ds').1, h]

theorem blocks_flatten (w : Nat) : ∀ (n : Nat) (bs : Bytes), n * w ≤ bs.length →
    (blocks w n bs).flatten = bs.take (n * w) :=
  CE.Cte.ArrEngine.blocks_flatten w

theorem nothing_lost_or_invented (w : Nat) (hw : 0 < w) (dataEvents : List Bytes) :
    (feed w dataEvents).out.flatten ++ (feed w dataEvents).leftover = dataEvents.flatten :=
  (feed_inv hw dataEvents).all

/-- non-vacuity: a u32 array of two elements delivered as 1 + 0 + 5 + 2 bytes -/
example :
    (feed 4 [[1], [], [2, 3, 4, 5, 6], [7, 8]]).out = [[1, 2, 3, 4], [5, 6, 7, 8]] ∧
    (feed 4 [[1, 2, 3, 4, 5, 6, 7, 8]]).out = [[1, 2, 3, 4], [5, 6, 7, 8]] ∧
    (feed 4 [[1, 2, 3, 4, 5, 6]]).leftover = [5, 6] := by decide

end CE.Props.C23

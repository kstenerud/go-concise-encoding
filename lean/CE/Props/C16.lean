import CE.Cache.Proofs
import CE.Cache.MultiProofs
/-
  C16 — reused instances behave like fresh ones, including after failed calls.

  The state that survives between calls on one instance:
  (1) the session's type caches (M-CACHE, CE/Cache/Model.lean);
  (2) the CBE reader's byte count and buffer, the CBE encoder's pending-array flags, the CTE
      encoder context, the validator's Context — each has a per-document reset point, which
      assigns every field listed in `Cache.Expect.mustReset` (those whose value at the start of a
      document influences its processing): a regenerated fact, `GenCheckSession.reset_points_cover`.
  Theorems here are about (1), where the defect D14 lived:
  * `quiescent_cache_has_no_placeholder` — at any moment when no call is in flight (every
    goroutine that started has finished), after ANY history of calls in any interleaving,
    including calls whose generation failed, the cache entry is either absent or the final
    function: never a placeholder that a later call would wait on;
  * `failed_generation_leaves_fresh_cache` — if generation fails (unsupported kind), the entry
    is exactly what a fresh session holds (absent), so the next call replays the first.
-/
namespace CE.Props.C16
open CE.Cache

def quiescent (s : Sys) : Prop := ∀ t, s.pcs t = .init ∨ ∃ r, s.pcs t = .finished r

theorem quiescent_cache_has_no_placeholder (P : Params) (hfix : P.fixed = true)
    (history : List Nat) (hq : quiescent (run P {} history)) :
    ∀ o, (run P {} history).slot ≠ .placeholder o := by
  intro o hslot
  have inv := run_inv P hfix history {} (Inv.init P)
  rcases (inv.at_ o).of_lock hslot with h | h | h <;>
    rcases hq o with h' | ⟨r, h'⟩ <;> rw [h] at h' <;> cases h'

theorem failed_generation_leaves_fresh_cache (P : Params) (hfix : P.fixed = true)
    (hfail : P.genOk = false) (history : List Nat) (hq : quiescent (run P {} history)) :
    (run P {} history).slot = ({} : Sys).slot := by
  have inv := run_inv P hfix history {} (Inv.init P)
  have hnp := quiescent_cache_has_no_placeholder P hfix history hq
  cases hs : (run P {} history).slot with
  | empty => rfl
  | placeholder o => exact absurd hs (hnp o)
  | final => have := inv.finalOk hs; rw [hfail] at this; cases this

/-- the code before fix e509a33: one failed call leaves the placeholder behind -/
example :
    let P : Params := { genOk := false, fixed := false }
    (run P {} [0, 0, 0]).slot = .placeholder 0 ∧ (run P {} [0, 0, 0]).pcs 0 = .finished .failed := by
  decide

/-- non-vacuity: a history of two sequential failing calls is quiescent and leaves nothing -/
example :
    let P : Params := { genOk := false }
    let s := run P {} [0, 0, 0, 1, 1, 1]
    s.slot = .empty ∧ s.pcs 0 = .finished .failed ∧ s.pcs 1 = .finished .failed := by
  decide

/-
  Many entries (CE/Cache/Multi.lean): the cache as a set of types with the dependency structure of
  Go types, recursive types included; one goroutine, any history of requests.
-/
open CE.Cache.Multi in
/-- a reused session - starting from a new session's empty cache, after ANY history of successful and
    failed requests for ANY types (recursive ones, unsupported ones, types built on unsupported ones) -
    answers each request exactly as a fresh session would (it succeeds iff no unsupported kind is
    reachable from the type) and never keeps a generator that stands on an unsupported kind -/
theorem reused_session_answers_like_fresh (T : Types) (ts : List Nat) (F' : Nat → Prop) (oks : List Bool)
    (h : History T (fun _ => False) ts F' oks) :
    Sound T F' noneInFlight ∧ Answers T ts oks :=
  history_like_fresh T h (empty_cache_sound T)

open CE.Cache.Multi in
/-- non-vacuity, and the defect fix 7c58b8f repaired: Link = struct{Next *Link; Ready chan} (type 0 with
    components 1 = *Link and 2 = chan; 1 has component 0).  The failed request for Link leaves an empty
    cache: the generator for *Link, completed while Link was in flight, is deleted with it. -/
example :
    let T : Types := { children := fun k => if k = 0 then [1, 2] else if k = 1 then [0] else [], bad := fun k => k = 2 }
    ∃ F', History T (fun _ => False) [0] F' [false] ∧ ¬ F' 1 := by
  intro T
  -- inside Link's frame: *Link is generated (its component Link is in flight: a hit), then chan fails
  have hptr : Gen T (fun _ => False) (fun k => noneInFlight k ∨ k = 0) 1 (fun k => (fun _ => False) k ∨ k = 1) true := by
    refine .stored _ _ _ 1 (fun h => h) (by intro h; rcases h with h | h; exact h; cases h) (by simp [T]) ?_
    show GenList T _ _ (T.children 1) _ true
    have : T.children 1 = [0] := by simp [T]
    rw [this]
    exact .cons_ok _ _ _ _ 0 [] true (.hit _ _ 0 (.inr (.inl (.inr rfl)))) (.nil _ _)
  have hchan : Gen T (fun k => (fun _ => False) k ∨ k = 1) (fun k => noneInFlight k ∨ k = 0) 2
      (fun k => ((fun _ => False) k ∨ k = 1) ∧ ¬ Reach T k 2) false := by
    refine .unsupported _ _ 2 (by intro h; rcases h with h | h; exact h; cases h) (by intro h; rcases h with h | h; exact h; cases h) (by simp [T])
  have hlist : GenList T (fun _ => False) (fun k => noneInFlight k ∨ k = 0) (T.children 0)
      (fun k => ((fun _ => False) k ∨ k = 1) ∧ ¬ Reach T k 2) false := by
    have : T.children 0 = [1, 2] := by simp [T]
    rw [this]
    exact .cons_ok _ _ _ _ 1 [2] false hptr (.cons_fail _ _ _ 2 [] hchan)
  refine ⟨_, .cons _ _ _ 0 [] false [] (.failed _ _ _ 0 (fun h => h) (fun h => h) (by simp [T]) hlist) (.nil _), ?_⟩
  intro h
  -- *Link reaches chan through Link, so it did not survive
  apply h.1.2
  exact .step 1 0 2 (by simp [T]) (.step 0 2 2 (by simp [T]) (.refl 2))

open CE.Cache.Multi in
/-- the cache the code left behind before fix 7c58b8f (only Link's own placeholder deleted:
    *Link still cached) is not sound: a later request for *Link would be answered from it -/
example :
    let T : Types := { children := fun k => if k = 0 then [1, 2] else if k = 1 then [0] else [], bad := fun k => k = 2 }
    ¬ Sound T (fun k => k = 1) noneInFlight := by
  intro T hs
  apply hs 1 rfl
  exact .child 1 0 (fun h => h) (by simp [T]) (.child 0 2 (fun h => h) (by simp [T]) (.bad 2 (fun h => h) (by simp [T])))

end CE.Props.C16

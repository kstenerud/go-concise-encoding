import CE.Rules.Table
import CE.Rules.Keys
/-
  C12 — duplicate map keys are rejected whatever encoding they use.

  Three layers.
  (1) `GoKey` models the Go values `Context.NotifyKey` stores in the key set (the dynamic type
      is part of map-key identity in Go): uint64, int64, or a word array [sign, magnitude…] for
      big integers.  `normalize` is NotifyKey's switch for the four integer event forms.
      `normalize_eq_iff`: two integer key events get the same Go key exactly when they denote the
      same integer — no missed duplicate, no false duplicate, for every combination of forms and
      every magnitude.
  (2) the machine stores `NormKey.int (denote e)` (the abstraction justified by (1)) and
      `notifyKey` rejects exactly the keys already present.
  (3) lifted to whole documents: `no_container_holds_two_equal_keys` - in EVERY state the validator
      reaches on any event stream, the normalised keys registered for the current container and
      for every enclosing container are pairwise distinct (an invariant over `run`,
      CE/Rules/Keys.lean, kept by each of the six effects a statement can have, CE/Rules/Effect.lean:
      entering a container starts an empty key list, leaving it restores the outer one).
  Strings/resource IDs (whole or chunked), UIDs and booleans are compared by contents in the
  model (`keyOfArray`, `notifyKeyOfBuilt`, `uidKey`); time keys are compared through the
  external `Time.String()` and are covered by correspondence only.
-/
namespace CE.Props.C12
open CE CE.Rules

/-- an integer key event, with the range its Go argument type allows -/
inductive IntKeyEv
  | pos (n : Nat)          -- OnPositiveInt(uint64)
  | neg (n : Nat)          -- OnNegativeInt(uint64): denotes -n
  | int (i : Int)          -- OnInt(int64)
  | big (i : Int)          -- OnBigInt(*big.Int)

def IntKeyEv.wf : IntKeyEv → Prop
  | .pos n => n < 2 ^ 64
  | .neg n => n < 2 ^ 64
  | .int i => -(2:Int) ^ 63 ≤ i ∧ i < 2 ^ 63
  | .big _ => True

def IntKeyEv.denote : IntKeyEv → Int
  | .pos n => n
  | .neg n => -(n : Int)
  | .int i => i
  | .big i => i

/-- the dynamic Go value stored in `Keys` -/
inductive GoKey
  | u64 (n : Nat)
  | i64 (i : Int)
  | words (negative : Bool) (magnitude : Nat)     -- [len+1]big.Word{sign, bits…}
deriving DecidableEq

/-- `*big.Int` case of NotifyKey: IsUint64 → uint64; IsInt64 → int64; else the word array -/
def normBig (i : Int) : GoKey :=
  if 0 ≤ i ∧ i < 2 ^ 64 then .u64 i.toNat
  else if -(2:Int) ^ 63 ≤ i ∧ i < 0 then .i64 i
  else .words (i < 0) i.natAbs

/-- NotifyKey's normalisation of the four integer forms (rules/context.go as of commit 1a231c3) -/
def normalize : IntKeyEv → GoKey
  | .pos n => .u64 n
  | .neg n => if n = 0 then .u64 0 else if n ≤ 2 ^ 63 then .i64 (-(n : Int)) else .words true n
  | .int i => if 0 ≤ i then .u64 i.toNat else .i64 i
  | .big i => normBig i

def GoKey.value : GoKey → Int
  | .u64 n => n
  | .i64 i => i
  | .words neg m => if neg then -(m : Int) else m

theorem value_normBig (i : Int) : (normBig i).value = i := by
  fun_cases normBig i
  · simp only [GoKey.value]; omega
  · rfl
  · simp only [GoKey.value, decide_eq_true_eq]; split <;> omega

theorem normBig_u64 {i : Int} (h0 : 0 ≤ i) (h : i < 2 ^ 64) : normBig i = .u64 i.toNat :=
  if_pos ⟨h0, h⟩

theorem normBig_i64 {i : Int} (h0 : i < 0) (h : -(2:Int) ^ 63 ≤ i) : normBig i = .i64 i := by
  unfold normBig; rw [if_neg (by omega), if_pos ⟨h, h0⟩]

theorem normBig_words_neg {i : Int} (h : i < -(2:Int) ^ 63) : normBig i = .words true i.natAbs := by
  unfold normBig; rw [if_neg (by omega), if_neg (by omega), decide_eq_true (by omega)]

theorem normalize_eq_normBig (a : IntKeyEv) (ha : a.wf) : normalize a = normBig a.denote := by
  cases a <;> simp only [IntKeyEv.wf] at ha <;> simp only [normalize, IntKeyEv.denote]
  · rw [normBig_u64 (Int.natCast_nonneg _) (by omega), Int.toNat_natCast]
  · split
    · subst_vars; rfl
    · split
      · rw [normBig_i64 (by omega) (by omega)]
      · rw [normBig_words_neg (by omega), Int.natAbs_neg, Int.natAbs_natCast]
  · split
    · rw [normBig_u64 ‹_› (Int.lt_trans ha.2 (by decide))]
    · rw [normBig_i64 (Int.not_le.1 ‹_›) ha.1]

theorem normalize_eq_iff (a b : IntKeyEv) (ha : a.wf) (hb : b.wf) :
    normalize a = normalize b ↔ a.denote = b.denote := by
  rw [normalize_eq_normBig a ha, normalize_eq_normBig b hb]
  exact ⟨fun h => by simpa only [value_normBig] using congrArg GoKey.value h, congrArg normBig⟩

/-- the machine's key test: a key is rejected iff an equal key is already in the container -/
theorem notifyKey_rejects_iff (s : RState) (k : NormKey) :
    notifyKey s k = .error .dupKey ↔ k ∈ s.cur.keys := by
  unfold notifyKey
  by_cases h : s.cur.keys.contains k <;> simp_all

theorem notifyKey_adds (s s' : RState) (k : NormKey) (h : notifyKey s k = .ok s') :
    s'.cur.keys = k :: s.cur.keys :=
  (notifyKey_ok.1 h).2 ▸ rfl

/-- where keys are checked: key position of maps and every position of a record type -/
theorem key_positions_notify :
    Model.ruleTable .mapKey .onKeyableObject = [.notifyKey, .changeRule .mapValue] ∧
    Model.ruleTable .mapKey .onArray = [.validateFullKeyable, .notifyKeyOfArray, .changeRule .mapValue] ∧
    Model.ruleTable .mapKey .onStringlikeArray = [.validateFullStringlikeKeyable, .notifyKeyOfArray, .changeRule .mapValue] ∧
    Model.ruleTable .mapKey .onChildContainerEnded = [.notifyKeyOfBuilt, .changeRule .mapValue] ∧
    Model.ruleTable .recordType .onKeyableObject = [.notifyKey] ∧
    Model.ruleTable .recordType .onArray = [.validateFullKeyable, .notifyKeyOfArray] ∧
    Model.ruleTable .recordType .onStringlikeArray = [.validateFullStringlikeKeyable, .notifyKeyOfArray] ∧
    Model.ruleTable .recordType .onChildContainerEnded = [.notifyKeyOfBuilt] := by decide

/-- non-vacuity, on the inputs of the defect commit 1a231c3 repaired: one negative integer in two
    event forms -/
example : normalize (.neg 5) = normalize (.int (-5)) ∧
    normalize (.neg (2 ^ 63)) = normalize (.int (-(2:Int) ^ 63)) ∧
    normalize (.neg (2 ^ 63 + 1)) = normalize (.big (-(2:Int) ^ 63 - 1)) ∧
    normalize (.neg 0) = normalize (.pos 0) ∧
    normalize (.pos 5) ≠ normalize (.neg 5) := by decide

/-- on any stream, accepted or not: no open container holds two equal (normalised) keys -/
theorem no_container_holds_two_equal_keys (env : Env) (evs : List Ev) :
    let s := (run env RState.init evs 0).2.2
    s.cur.keys.Nodup ∧ ∀ e ∈ s.stack, e.keys.Nodup :=
  run_keys env evs RState.init 0 KInv.init

end CE.Props.C12

import CE.Gen.CheckEntry
import CE.Cbe.Progress
import CE.Cbe.Prefix
/-
  C07  No input makes a public entry point panic, hang or crash.

  What is proved, and over what:

  (1) panic containment.  `escapes` is a model of Go's panic propagation through the call tree of
      an entry point: a function with a deferred recover stops every panic raised below it; a
      function without one lets through a panic of its own (indexing an unchecked parameter) or
      of any callee; a callee that is not itself an extracted entry point is ARBITRARY code - it
      may panic (`beh c = true`) or not.  `contained_sound` shows that the syntactic predicate
      `contained`, which the generated obligation `entry_points_contain_panics` decides over
      the facts extracted from /repo on this run, implies that no panic escapes - for every
      behaviour of the code below (decoders, builders, iterators, ANTLR, reflection: any of
      them may panic at any point on any input).  `no_panic_escapes_any_entry_point` is the
      instantiation for the current source.
  (2) no endless loop in the CBE decoder model: each iteration of the main loop consumes at least
      one byte (`decodeOne_progress`), and so does each chunk header (`readUleb_len`; hence
      `decodeChunks_len` for a chunk sequence that is read), so a run ends after at most `length`
      iterations (`loopIterations_le`) and the model's fuel is never what stops it
      (`decode_never_stalls`).
  (3) no goroutine waits forever on the type caches the marshalers and unmarshalers share
      (C17 `no_goroutine_waits_forever`, for every schedule), also after a generation that
      failed on an unsupported kind (C16 `failed_generation_leaves_fresh_cache`).

  Not provable here (observed by the harness in a limited address space with a watchdog):
  Go run-time fatal errors - stack exhaustion, out of memory, concurrent map access - which
  no recover() can stop, and termination of the ANTLR-generated CTE parser.
-/
namespace CE.Props.C07
open CE.Api

/-- can a panic escape `e`, when every function that is not an extracted entry point panics
    exactly when `beh` says so?  (fuel: call depth; the entry-point call graph is acyclic and at
    most 4 deep, checked by the generated obligation itself since `contained` uses the same fuel) -/
def escapes (eps : List EP) (beh : String → Bool) : Nat → EP → Bool
  | 0, e => !e.hasRecover
  | fuel + 1, e =>
    !e.hasRecover &&
    (e.unguardedIndex ||
      e.callees.any fun c =>
        !safeCallees.contains c &&
        (if eps.any (fun x => x.short == c && x.name != e.name)
         then (eps.filter fun x => x.short == c && x.name != e.name).any (escapes eps beh fuel)
         else beh c))

theorem contained_sound (eps : List EP) (beh : String → Bool) :
    ∀ (fuel : Nat) (e : EP), contained eps fuel e = true → escapes eps beh fuel e = false
  | 0, e, h => by simp [contained] at h; simp [escapes, h]
  | fuel + 1, e, h => by
    unfold contained at h
    unfold escapes
    cases hr : e.hasRecover
    · -- no recover: no unguarded index, and every callee is safe or resolves to contained entry points only
      simp only [hr, Bool.false_or, Bool.and_eq_true, Bool.not_eq_true', List.all_eq_true, Bool.or_eq_true] at h
      simp only [h.1, Bool.not_false, Bool.true_and, Bool.false_or, List.any_eq_false, Bool.and_eq_true,
        Bool.not_eq_true', not_and]
      intro c hc hns
      rcases h.2 c hc with hs | ⟨hex, hall⟩
      · rw [hs] at hns; cases hns
      · rw [if_pos hex, Bool.not_eq_true, List.any_eq_false]
        exact fun x hx => by rw [contained_sound eps beh fuel x (hall x hx)]; exact Bool.false_ne_true
    · rfl

/-- the current source: whatever the code below the entry points does, no panic leaves a public
    marshal / unmarshal / decode entry point -/
theorem no_panic_escapes_any_entry_point (beh : String → Bool) :
    ∀ e ∈ CE.Gen.entryPoints, isEntry e = true → escapes CE.Gen.entryPoints beh 4 e = false :=
  fun e he hi => contained_sound _ beh 4 e (CE.GenCheckEntry.entry_points_contain_panics e he hi)

/-- non-vacuity: the predicate does reject an entry point that forwards to panicking code
    without a recover (the shape of the code before fix 7d0b128 / defect D16: a universal entry
    point peeking at an empty document) -/
example :
    let bad : EP := { name := "ce.X", short := "X", hasRecover := false, unguardedIndex := true, callees := [], entry := true }
    contained [bad] 4 bad = false ∧ escapes [bad] (fun _ => false) 4 bad = true := by decide

example :
    let bad : EP := { name := "ce.X", short := "X", hasRecover := false, unguardedIndex := false, callees := ["parse"], entry := true }
    contained [bad] 4 bad = false ∧ escapes [bad] (fun _ => true) 4 bad = true := by decide

/-- all 24 entry points the property names are present in the extracted list -/
theorem entry_points_present : requiredEntries.all (fun n => CE.Gen.entryPoints.any (fun e => e.name == n && e.entry)) = true :=
  CE.GenCheckEntry.entry_points_present

/-- the CBE decoder model never stops for lack of fuel: every loop iteration consumes input -/
theorem cbe_decoder_always_terminates (bs : Bytes) : (CE.Cbe.decode bs).2 ≠ some .noProgress :=
  CE.Cbe.decode_never_stalls bs

theorem cbe_main_loop_iterations_bounded (bs : Bytes) : CE.Cbe.loopIterations bs.length bs ≤ bs.length :=
  CE.Cbe.loopIterations_le _ _

end CE.Props.C07

import CE.Io.ReaderProofs
/-
  C28 — stream decoding does not depend on how the reader delivers bytes.

  The CBE decoder touches its io.Reader only through `readerAdapter` (commit 3165398), via
  two functions: readIntoBuffer (`readFull`) and ReadTypeOrEOF (`readByteOrEOF`); the ULEB128 /
  compact-float / compact-time helpers read single bytes through the same adapter.  Theorems:
  for every legal delivery schedule (any short reads, any `(0, nil)` reads short of 100 in a
  row, final bytes with or without `io.EOF`) these functions return exactly what they return
  on the in-memory document.  Hence the byte sequence the decoder consumes, and so everything
  it computes, is independent of the schedule.
  Modelled, not verified: that every byte access of cbe/decoder.go goes through these two
  functions (tied by the C28 correspondence: documents × delivery patterns × entry points);
  CTE (io.Copy) and the universal path (bufio.Reader) rely on the standard library's own
  handling of the io.Reader contract (assumed).
-/
namespace CE.Props.C28
open CE CE.Io

theorem full_read_delivery_irrelevant (bs : Bytes) (n : Nat) (hle : n ≤ bs.length)
    (sched : Nat → Nat) (eofWithData : Bool) (hl : Legal sched) :
    ∃ a', readFull { src := { data := bs, sched := sched, eofWithData := eofWithData } } n = .ok (bs.take n, a')
      ∧ Good a' (bs.drop n) := by
  have := readFull_yields _ bs .eof n (yields_document bs sched eofWithData hl)
  simpa only [if_pos hle, good_iff_yields] using this

theorem byte_stream_delivery_irrelevant (bs : Bytes) (sched : Nat → Nat) (eofWithData : Bool) (hl : Legal sched) :
    readAll (bs.length + 1) { src := { data := bs, sched := sched, eofWithData := eofWithData } } = (bs, none) :=
  readAll_yields bs _ _ .eof (yields_document bs sched eofWithData hl) (by omega)

theorem two_deliveries_agree (bs : Bytes) (s1 s2 : Nat → Nat) (f1 f2 : Bool) (h1 : Legal s1) (h2 : Legal s2) :
    readAll (bs.length + 1) { src := { data := bs, sched := s1, eofWithData := f1 } }
      = readAll (bs.length + 1) { src := { data := bs, sched := s2, eofWithData := f2 } } := by
  rw [byte_stream_delivery_irrelevant bs s1 f1 h1, byte_stream_delivery_irrelevant bs s2 f2 h2]

/-- non-vacuity: the one-byte-then-empty-read schedule is legal -/
example : Legal (fun i => if i % 2 = 0 then 1 else 0) := by
  intro i
  rcases Nat.mod_two_eq_zero_or_one i with h | h
  · exact ⟨0, by decide, by simp [h]⟩
  · have h1 : (i + 1) % 2 = 0 := by rw [Nat.add_mod, h]
    exact ⟨1, by decide, by simp [h1]⟩

end CE.Props.C28

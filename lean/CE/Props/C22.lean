import CE.Cbe.Minimal
import CE.Cbe.Items
/-
  C22 — CBE encoding is minimal and canonical.

  Proved: integers (both signs, every magnitude below 2^64): the encoder's output is one of
  the encodings the format offers (`posFormLens`/`negFormLens`, written from the format's
  type table independently of the encoder's `switch`) and no offered encoding is shorter;
  and the integer re-encoding idempotence: what the decoder emits for an encoder-written
  integer encodes to the same bytes again.
  `structural_encoding_is_a_fixed_point`: for EVERY document made of structural events
  (containers, Booleans, null, integers of all widths and forms, big integers, binary floats,
  decimal floats and big decimals, identifiers, UIDs, strings, resource identifiers and whole typed
  arrays in short and chunk-header form, comments, padding), decoding the encoder's
  bytes and encoding the delivered events again yields exactly the same bytes: the encoding is
  canonical.
  `chunked_encoding_is_a_fixed_point`: the same when the document also contains arrays, media objects and
  custom binary data sent in chunks (any chunking, any division of the data into data events): what the decoder
  delivers for the encoder's bytes encodes to exactly those bytes again.
  `small_array_form_is_chosen_and_shorter` / `long_array_form_only_without_short_form`: typed-array headers.
  Not proved: that a float is written in the narrowest exact width; that is decided on every run by the
  driver's independent size oracle (CBE.MINLEN, `minLen`) and by decode→encode byte identity on the implementation.
-/
namespace CE.Props.C22
open CE CE.Cbe

/-- the facts about `byteLen` the case analysis needs, as implications `omega` can use -/
theorem byteLen_facts (n : Nat) (h : n < 2 ^ 64) :
    (1 ≤ n → 1 ≤ byteLen n) ∧ (256 ≤ n → 2 ≤ byteLen n) ∧ (65536 ≤ n → 3 ≤ byteLen n) ∧
    (4294967296 ≤ n → 5 ≤ byteLen n) ∧ (281474976710656 ≤ n → 7 ≤ byteLen n) ∧
    (n < 281474976710656 → byteLen n ≤ 6) ∧ byteLen n ≤ 8 ∧ (n = 0 → byteLen n = 0) :=
  -- the bounds are the powers `256 ^ k` of `byteLen_ge` / `byteLen_le`, evaluated
  ⟨byteLen_ge n 0, byteLen_ge n 1, byteLen_ge n 2, byteLen_ge n 4, byteLen_ge n 6, byteLen_le n 6,
    byteLen_le_8 n h, fun h0 => by rw [byteLen, if_pos h0]⟩

set_option backward.split false in
/-- both signs at once: `m` is the least magnitude with a one-byte form (0, and 1 for the negative integers, since
    negative zero has none), `L` the length the encoder chooses, `offered` the lengths the format offers.  With
    `offered` a disjunction, each range of `n` is linear arithmetic; `omega` is given only the four bounds on
    `byteLen n` the ranges need.  The ranges are taken apart in `hL`, where the nested `if` stands once (`offered L`
    holds six copies of it).
    (`backward.split false`: `split` then rewrites only the `if` it splits.  By default it simplifies every nested
    `if` again in both branches, which doubles its cost with each level of a chain like this one.) -/
theorem forms_minimal (m n L : Nat) (hm : m ≤ 1) (h : n < 2 ^ 64) (offered : Nat → Prop)
    (ho : ∀ l, offered l ↔ ((m ≤ n ∧ n ≤ 100) ∧ l = 1) ∨ (n < 2 ^ 8 ∧ l = 2) ∨ (n < 2 ^ 16 ∧ l = 3) ∨
      (n < 2 ^ 32 ∧ l = 5) ∨ l = 9 ∨ l = 2 + byteLen n)
    (hL : L = if n < m then 2 else if n ≤ 100 then 1 else if n ≤ 0xff then 2 else if n ≤ 0xffff then 3
      else if n ≤ 0xffffffff then 5 else if n < 2 ^ 48 then 2 + byteLen n else 9) :
    offered L ∧ ∀ l, offered l → L ≤ l := by
  obtain ⟨f1, -, f3, -, f7, u6, -, -⟩ := byteLen_facts n h
  simp only [ho]
  generalize byteLen n = b at *
  clear h ho
  repeat' split at hL
  all_goals subst hL
  all_goals exact ⟨by omega, fun l hl => by omega⟩

theorem posInt_minimal (n : Nat) (h : n < 2 ^ 64) :
    (encPosInt n).length ∈ posFormLens n ∧ ∀ l ∈ posFormLens n, (encPosInt n).length ≤ l :=
  forms_minimal 0 n _ (by decide) h _ (fun l => by simp only [mem_posFormLens, Nat.zero_le, true_and])
    (by simp only [encPosInt_length, Nat.not_lt_zero, if_false])

theorem negInt_minimal (n : Nat) (h : n < 2 ^ 64) :
    (encNegInt n).length ∈ negFormLens n ∧ ∀ l ∈ negFormLens n, (encNegInt n).length ≤ l :=
  forms_minimal 1 n _ (by decide) h _ (mem_negFormLens n) (by simp only [encNegInt_length, Nat.lt_one_iff])

/-- idempotence for integers: re-encoding what the decoder emits gives the same bytes -/
theorem posInt_reencode (n : Nat) (h : n < 2 ^ 64) (st : EncSt) :
    encodeEv st (renormPos n) = encodeEv st (.posInt n) :=
  encodeEv_renormPos n st

theorem negInt_reencode (n : Nat) (h : n < 2 ^ 64) (st : EncSt) :
    encodeEv st (renormNeg n) = encodeEv st (.negInt n) :=
  encodeEv_renormNeg n st

/-- canonical form: decode-then-encode reproduces the encoder's bytes exactly -/
theorem structural_encoding_is_a_fixed_point (evs : List Ev) (h : evs.all simple = true) :
    let doc := Ev.beginDoc :: Ev.version 0 :: (evs ++ [Ev.endDoc])
    ∃ back, decode (encode doc).1 = (back, none) ∧ encode back = encode doc :=
  canonical_fixed_point evs h

/-- … also for documents with arrays sent in chunks -/
theorem chunked_encoding_is_a_fixed_point (items : List Item) (h : ∀ i ∈ items, i.ok) :
    let doc := Ev.beginDoc :: Ev.version 0 :: (items.flatMap Item.events ++ [Ev.endDoc])
    ∃ back, decode (encode doc).1 = (back, none) ∧ encode back = encode doc :=
  items_canonical_fixed_point items h

example : (encPosInt 100).length = 1 ∧ (encPosInt 101).length = 2 ∧ (encPosInt (2 ^ 48)).length = 9 := by
  decide

/-- typed-array headers: whenever the format offers the short form for an array (a type with a short code
    and at most 15 elements) the encoder writes it, and it is strictly shorter than the only other form
    (type code + chunk header), by exactly the chunk header -/
theorem small_array_form_is_chosen_and_shorter (t : ArrT) (count : Nat) (data hs : Bytes)
    (h1 : smallHeader t count = some hs) :
    encArrayWhole t count data = .ok (hs ++ data) ∧
    ∃ hl, arrayHeader t = .ok hl ∧
      (hs ++ data).length + (chunkHeader count false).length = (hl ++ chunkHeader count false ++ data).length ∧
      0 < (chunkHeader count false).length := by
  refine ⟨by simp [encArrayWhole, h1], ?_⟩
  have hpos : 0 < (chunkHeader count false).length := by unfold chunkHeader; exact uleb_length_pos _
  -- the two headers are equally long: one byte, or two with the plane byte
  obtain ⟨hl, hah, hlen⟩ : ∃ hl, arrayHeader t = .ok hl ∧ hl.length = hs.length := by
    unfold smallHeader at h1
    split at h1
    · cases h1
    · cases t <;> simp [shortCode] at h1 <;> subst h1 <;> exact ⟨_, rfl, rfl⟩
  exact ⟨hl, hah, by simp only [List.length_append]; omega, hpos⟩

/-- … and when the format offers no short form (more than 15 elements, or a type without a short code) the
    encoder writes the one form there is -/
theorem long_array_form_only_without_short_form (t : ArrT) (count : Nat) (data hl : Bytes)
    (h1 : smallHeader t count = none) (h2 : arrayHeader t = .ok hl) :
    encArrayWhole t count data = .ok (hl ++ chunkHeader count false ++ data) ∧
    (count > maxSmallArrayLength ∨ shortCode t = none) := by
  refine ⟨by simp [encArrayWhole, h1, h2, bind, Except.bind], ?_⟩
  unfold smallHeader at h1
  split at h1
  · left; assumption
  · right
    cases hc : shortCode t with
    | none => rfl
    | some p => obtain ⟨c, b⟩ := p; cases b <;> simp [hc] at h1

/-- non-vacuity: a 3-element uint16 array takes the short form, a 16-element one cannot -/
example : (smallHeader .u16 3).isSome = true ∧ smallHeader .u16 16 = none ∧ (arrayHeader .u16).toOption.isSome = true := by decide

end CE.Props.C22

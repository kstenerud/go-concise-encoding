import CE.Rules.Limits
import CE.Rules.Markers
/-
  C14 — configured resource limits are enforced exactly (validator part).

  Full statement (target): accepts cfg evs ↔ accepts cfg∞ evs ∧ depth evs ≤ cfg.maxDepth ∧
  objects evs ≤ cfg.maxObjects ∧ maxArrayBytes evs ≤ cfg.maxArray (when ≠ 0) ∧ maxIdLen evs ≤
  cfg.maxId ∧ markers evs ≤ cfg.maxRefs, with the measures of `Spec.measure`.
  Proved here: exactness of every single limit check — each Context function that tests a
  limit succeeds *iff* the counter it is about to reach is within the configured maximum
  (so: rejected when exceeded, never rejected because of the limit when within it) — and which
  rule-table entries reach those functions.  Lifted to whole documents for the object count:
  `object_counter_is_the_structural_measure` - after EVERY accepted stream the validator's counter
  equals `Spec.measure evs`.objects (the independent structural measure the harness compares
  with) and is within the configured maximum (CE/Rules/Limits.lean: no statement of any rule
  method touches the counter, NotifyNewObject adds one per object event); and
  `open_containers_and_markers_stay_within_their_limits` - in every state the validator reaches on
  any stream the open-container count is within MaxContainerDepth, the registered markers are within
  MaxLocalReferenceCount and the marker counter is their number.  For the equality of depth, array size,
  identifier length and marker count the lift (the counters equal the structural measures) is
  not proved: it is exercised on every run at usage−1, usage and usage+1 of every limit of every
  generated document (bin/check C14).
  Document size (`MaxDocumentSizeBytes`) belongs to the decoders (DESIGN.md, the note under the C14
  claim); it is checked through the CBE/CTE decoder runs.
-/
namespace CE.Props.C14
open CE CE.Rules

/-- container depth: entering a container succeeds iff the new depth is within the maximum -/
theorem depth_limit_exact (cfg : Cfg) (s : RState) (r : Rule) (dt : DT) (ex : Option Nat) :
    (∃ s', beginContainer cfg s r dt ex = .ok s') ↔ s.depth + 1 ≤ cfg.maxContainerDepth := by
  simp [beginContainer_ok]

theorem depth_limit_error (cfg : Cfg) (s : RState) (r : Rule) (dt : DT) (ex : Option Nat)
    (h : s.depth + 1 > cfg.maxContainerDepth) : beginContainer cfg s r dt ex = .error .limitDepth := by
  simp [beginContainer, h, bind, Except.bind, throw, throwThe, MonadExceptOf.throw]

/-- every container kind goes through `beginContainer` (lists, maps, records, record types,
    edges, nodes): the only statements of the table that open containers -/
theorem containers_counted (cfg : Cfg) (s s' : RState) (args args' : Args) (a : Act)
    (ha : a = .beginList ∨ a = .beginMap ∨ a = .beginEdge ∨ a = .beginNode)
    (h : execAct cfg a s args = .ok (.next s' args')) : s'.depth = s.depth + 1 ∧ s.depth + 1 ≤ cfg.maxContainerDepth := by
  rcases ha with rfl | rfl | rfl | rfl <;>
  · obtain ⟨hd, rfl⟩ := beginContainer_ok.1 (next_ok h)
    exact ⟨rfl, hd⟩

/-- object count: an object event passes the count check iff the new total is within the
    maximum (the expected-count test of records and edges is structural, not a limit) -/
theorem object_limit_exact (cfg : Cfg) (s : RState) (hex : s.cur.expected = none) (real : Bool) :
    (∃ s', notifyNewObject cfg s real = .ok s') ↔ s.objectCount + 1 ≤ cfg.maxObjectCount := by
  constructor
  · rintro ⟨s', h⟩
    exact (notifyNewObject_ok h).1
  · intro h
    have hn : ¬ s.objectCount + 1 > cfg.maxObjectCount := Nat.not_lt.2 h
    unfold notifyNewObject
    cases real <;> simp [hex, hn, bind, Except.bind, pure, Except.pure]

/-- number of markers: `markObject` passes the limit iff the new count is within the maximum -/
theorem marker_limit_error (cfg : Cfg) (s : RState) (dt : DT) (h : s.refCount + 1 > cfg.maxLocalRefCount) :
    markObject cfg s dt = .error .limitRefs := by
  simp [markObject, h, bind, Except.bind, throw, throwThe, MonadExceptOf.throw]

theorem marker_limit_not_spurious (cfg : Cfg) (s : RState) (dt : DT) (h : s.refCount + 1 ≤ cfg.maxLocalRefCount) :
    markObject cfg s dt ≠ .error .limitRefs := by
  have hn : ¬ (s.refCount + 1 > cfg.maxLocalRefCount) := by omega
  unfold markObject
  simp only [hn, bind, Except.bind, pure, Except.pure, throw, throwThe, MonadExceptOf.throw, if_false]
  repeat' split
  all_goals simp

theorem id_limit_exact (cfg : Cfg) (safe : Bytes → Bool) (id : Bytes) (h0 : id.length ≠ 0) (hs : safe id = true) :
    validateIdentifier cfg safe id = .ok () ↔ id.length ≤ cfg.maxIdLength := by
  simp [validateIdentifier_ok, h0, hs]

/-- array size (whole arrays): rejected iff longer than a non-zero maximum -/
theorem array_limit_exact (cfg : Cfg) (n : Nat) :
    validateLength cfg n = .ok () ↔ (n ≤ cfg.maxArrayBytes ∨ cfg.maxArrayBytes = 0) := by
  simp only [validateLength, ite_error_ok, and_true]
  omega

/-- array size (chunked arrays): the running total of declared chunk bytes is tested at each
    chunk header -/
theorem chunk_limit_error (cfg : Cfg) (k : ChunkKind) (s : RState) (args : Args)
    (h : (s.arrayTotal + chunkBytes k s args.length) % 2 ^ 64 > s.arrayMax) (hm : s.arrayMax > 0) :
    actBeginChunk cfg k s args = .error .limitArray := by
  simp [actBeginChunk, h, hm]

theorem chunk_limit_not_spurious (cfg : Cfg) (k : ChunkKind) (s : RState) (args : Args)
    (h : (s.arrayTotal + chunkBytes k s args.length) % 2 ^ 64 ≤ s.arrayMax ∨ s.arrayMax = 0) :
    actBeginChunk cfg k s args ≠ .error .limitArray := by
  rw [actBeginChunk, if_neg (by omega)]
  split <;> simp

/-- non-vacuity -/
example : (∃ s', beginContainer { maxContainerDepth := 3 } { depth := 2 } .list DT.list none = .ok s') := by
  rw [depth_limit_exact]; decide

/-- an accepted stream: the object counter is the structural object count, and within the limit -/
theorem object_counter_is_the_structural_measure (env : Env) (evs : List Ev)
    (h : (run env RState.init evs 0).2.1 = none) :
    (run env RState.init evs 0).2.2.objectCount = (Spec.measure evs).objects ∧
    (Spec.measure evs).objects ≤ env.cfg.maxObjectCount := by
  obtain ⟨h1, h2⟩ := run_count env evs RState.init 0 h (by simp [RState.init])
  have hm : (Spec.measure evs).objects = objectsIn evs := by
    have := measure_objects evs 0 0 8 {}
    simpa [Spec.measure] using this
  rw [hm]
  simp only [RState.init, Nat.zero_add] at h1
  exact ⟨h1, by rw [← h1]; exact h2⟩

/-- on any stream: open containers and registered markers never exceed their configured maxima -/
theorem open_containers_and_markers_stay_within_their_limits (env : Env) (evs : List Ev) :
    let s := (run env RState.init evs 0).2.2
    s.depth ≤ env.cfg.maxContainerDepth ∧ s.refCount ≤ env.cfg.maxLocalRefCount ∧ s.refCount = s.marked.length :=
  run_lim env evs RState.init 0 (LInv.init _)

/-- the marker limit bounds the number of DIFFERENT marker identifiers of a document: on any stream the
    registered identifiers are pairwise distinct and at most MaxLocalReferenceCount many; and when a whole
    document is accepted, the number of different identifiers its references use is within the same limit
    (each of them is one of the registered markers) -/
theorem distinct_markers_and_referenced_ids_within_limit (env : Env) (htbl : env.tbl = Model.ruleTable) (evs : List Ev)
    (h : (run env RState.init (evs ++ [.endDoc]) 0).2.1 = none) (ids : List Bytes) (hnd : ids.Nodup)
    (hids : ∀ id ∈ ids, Ev.refLocal id ∈ evs) :
    ((run env RState.init (evs ++ [.endDoc]) 0).2.2.marked.map (·.1)).Nodup ∧
    ((run env RState.init (evs ++ [.endDoc]) 0).2.2.marked.map (·.1)).length ≤ env.cfg.maxLocalRefCount ∧
    ids.length ≤ env.cfg.maxLocalRefCount := by
  -- the state is named first: with the `run ..` term written out in every hypothesis the same steps are ten times as dear
  generalize hs : (run env RState.init (evs ++ [.endDoc]) 0).2.2 = s
  have hl := run_lim env (evs ++ [.endDoc]) RState.init 0 (LInv.init _)
  rw [hs] at hl
  have hd : (s.marked.map (·.1)).Nodup := by
    have := (List.nodup_append.1 (run_partitioned env (evs ++ [.endDoc]) RState.init 0 Partitioned.init)).1
    rw [hs] at this; exact this
  have hlen : (s.marked.map (·.1)).length ≤ env.cfg.maxLocalRefCount := by
    rw [List.length_map]; have := hl.2.1; have := hl.2.2; omega
  refine ⟨hd, hlen, ?_⟩
  have hsub : ids ⊆ s.marked.map (·.1) := fun id hid => by
    have := accepted_references_have_markers env htbl evs h id (hids id hid)
    rw [hs] at this; exact this
  exact Nat.le_trans (hnd.length_le_of_subset hsub) hlen

end CE.Props.C14

import CE.Cache.Proofs
/-
  C17 — concurrent use of separate instances … sessions shared between them … each call
  returns exactly what it returns when run alone.

  The shared mutable state of the library is the two per-session type caches (and the
  package-level root sessions they inherit from).  Theorems over M-CACHE, for EVERY schedule
  (any list of goroutine ids, any number of goroutines, any interleaving of their steps):
  * `every_call_returns_the_sequential_result` — whatever the interleaving, a goroutine that
    finishes obtains exactly the outcome of generating the code for the type alone;
  * `no_goroutine_waits_forever` — a goroutine blocked on a placeholder always has an owner
    that can take a step (no deadlock), and by `Cache.step_progress` every step moves its
    goroutine strictly forward in a measure with eight values (no livelock).
  Not modelled (observed with the race detector by `bin/check C17`): Go's memory model at
  access granularity — the theorems assume sync.Map and sync.WaitGroup are linearizable and
  that WaitGroup.Done happens-before the return of Wait.
-/
namespace CE.Props.C17
open CE.Cache

theorem every_call_returns_the_sequential_result (P : Params) (hfix : P.fixed = true)
    (schedule : List Nat) (t : Nat) (r : Res)
    (h : (run P {} schedule).pcs t = .finished r) : r = expected P := by
  have ht := (run_inv P hfix schedule {} (Inv.init P)).at_ t
  rw [h] at ht
  exact ht.2

theorem no_goroutine_waits_forever (P : Params) (hfix : P.fixed = true)
    (schedule : List Nat) (t o : Nat)
    (hw : (run P {} schedule).pcs t = .waiting o)
    (hblocked : step P (run P {} schedule) t = none) :
    (step P (run P {} schedule) o).isSome = true := by
  have inv := run_inv P hfix schedule {} (Inv.init P)
  generalize run P {} schedule = s at *
  have hnr : o ∉ s.released := by
    intro hr; simp [step, hw, hr] at hblocked
  have ht := inv.at_ t
  rw [hw] at ht
  -- `o` is not released, so it still holds the lock: it is generating, or about to release or store
  rcases (inv.at_ o).of_lock (ht.2.resolve_left hnr) with h | h | h
  · simp only [step, h]; cases P.genOk <;> simp [hfix]
  · simp [step, h]
  · simp [step, h]

/-- the code before fix e509a33 does not satisfy it: two calls involving an unsupported type,
    one after the other, and the second waits for an owner that is gone -/
example :
    let P : Params := { genOk := false, fixed := false }
    let s := run P {} [0, 0, 0, 1, 1]
    s.pcs 0 = .finished .failed ∧ s.pcs 1 = .waiting 0 ∧ step P s 1 = none ∧ step P s 0 = none := by
  decide

/-- non-vacuity: three goroutines racing on a fresh type all finish with the sequential result -/
example :
    let P : Params := { genOk := true }
    let s := run P {} [0, 1, 2, 0, 1, 2, 1, 1, 0, 0, 0, 2, 2, 1, 1, 0, 2, 2, 0]
    s.pcs 0 = .finished .ok ∧ s.pcs 1 = .finished .ok ∧ s.pcs 2 = .finished .ok := by
  decide

end CE.Props.C17

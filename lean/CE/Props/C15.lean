import CE.Rules.Runs
/-
  C15 — the validator passes accepted events through unchanged.

  `forward_exact`: whenever the model of RulesEventReceiver accepts an event, what it hands to
  the next receiver is exactly that one event with the same arguments — except the
  data-preserving rewrites the property lists (nil big number ↦ null; NaN given as float,
  decimal float or big decimal ↦ NaN event of the same kind).  `Spec.forwardOf` (CE/Rules/Measure.lean) is
  that specification, written independently of `step`.  The per-method forwarding of the model is
  tied to rules_event_rcv.go by the RULES correspondence (forwarded events are compared
  argument by argument on every run) and by the FWD.EQ oracle on the implementation's output.
-/
namespace CE.Props.C15
open CE CE.Rules

theorem forward_exact (env : Env) (s s' : RState) (e : Ev) (out : List Ev)
    (h : step env s e = .ok (s', out)) : out = [Spec.forwardOf e] :=
  let ⟨_, _, _, ho⟩ := step_ok h
  ho

/-- whole streams: the forwarded stream is the accepted prefix, event by event, in order -/
theorem forward_order (env : Env) :
    ∀ (evs : List Ev) (s : RState) (i : Nat) (fwd : List Ev) (sf : RState),
      run env s evs i = (fwd, none, sf) → fwd = evs.map Spec.forwardOf := by
  intro evs s i fwd sf h
  obtain ⟨_, -, he⟩ := run_ok (i := i) (show (run env s evs i).2.1 = none by rw [h])
  exact (congrArg (·.1) (h.symm.trans he))

/-- a rejected event forwards nothing: only the accepted prefix has been passed on -/
theorem rejected_forwards_prefix (env : Env) :
    ∀ (evs : List Ev) (s : RState) (i k : Nat) (err : RErr) (fwd : List Ev) (sf : RState),
      run env s evs i = (fwd, some (k, err), sf) → fwd = (evs.take (k - i)).map Spec.forwardOf ∧ i ≤ k := by
  intro evs s i k err fwd sf h
  rcases run_spec env evs s i with ⟨_, -, he⟩ | ⟨p, e, q, _, _, rfl, -, -, he⟩ <;> rw [he] at h <;> cases h
  rw [Nat.add_sub_cancel_left, List.take_left' rfl]
  exact ⟨rfl, Nat.le_add_right _ _⟩

end CE.Props.C15

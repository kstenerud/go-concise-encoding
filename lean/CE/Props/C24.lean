import CE.Cte.Lit
import CE.Cte.Digits
/-
  C24 — CTE literals decode to exactly the value written.

  The reference semantics `Lit.value / Lit.intElemValue / Lit.floatElemValue / Lit.strBytes`
  (CE/Cte/Lit.lean) is the "independent reference parser" of the property: positional notation
  with separators, sign, base prefixes, exact rational values for decimal and hexadecimal
  floats, range checks for array elements, the escape rules for strings.  `bin/check C24`
  compares the real decoder with it on generated spellings (LIT.NUM / LIT.ELEM / LIT.STR).

  Theorems here tie the two halves of the decoder's integer path to that semantics, for every
  spelling:
  * `separators_are_transparent` — a digit string with '_' separators (as the lexer admits them:
    between digits only) denotes exactly what the plain positional reading of the string with
    the separators deleted denotes — which is what the decoder computes after its
    `strings.ReplaceAll(str, "_", "")`;
  * `digitsValue_natDigits` — the reference semantics gives the standard spelling of n in base b
    (any number of leading zeros) the value n: in particular a leading zero does not switch
    the base (the defect repaired by fix e566e43);
  * `leading_zeros_do_not_change_base` — concrete witnesses of that repair in the semantics.
-/
namespace CE.Props.C24
open CE.Cte.Lit CE.Cte.ArrFmt

/-- what `strings.ReplaceAll(str, "_", "")` leaves -/
def stripSep (s : List Char) : List Char := s.filter (fun c => c != '_')

theorem stripSep_sep (cs : List Char) : stripSep ('_' :: cs) = stripSep cs := by simp [stripSep]
theorem stripSep_cons (c : Char) (cs : List Char) (h : c ≠ '_') : stripSep (c :: cs) = c :: stripSep cs := by
  simp [stripSep, h]
theorem stripSep_nil : stripSep [] = [] := rfl

theorem go_spec (b : Nat) : ∀ (s : List Char) (acc k : Nat) (last : Bool) (v k' : Nat),
    digitsValue.go b s acc k last = some (v, k') →
      parseDigits b (stripSep s) acc = some v ∧ k' = k + (stripSep s).length ∧ 0 < k' := by
  intro s acc k last
  -- the three ways `go` succeeds: at the end after a digit, past a separator, past a digit below the base
  fun_induction digitsValue.go b s acc k last <;> intro v k' h
  case case1 hc =>
    cases h
    exact ⟨rfl, rfl, of_decide_eq_true (Bool.and_eq_true_iff.mp hc).2⟩
  case case3 ih => rw [stripSep_sep]; exact ih v k' h
  case case5 c cs acc k _ hu d hd hlt ih =>
    obtain ⟨h1, h2, h3⟩ := ih v k' h
    rw [stripSep_cons c cs hu]
    exact ⟨by simp [parseDigits, hd, hlt, h1], by rw [h2, List.length_cons]; omega, h3⟩
  all_goals cases h

theorem separators_are_transparent (b : Nat) (s : List Char) (v k : Nat)
    (h : digitsValue b s = some (v, k)) :
    parseDigits b (stripSep s) 0 = some v ∧ k = (stripSep s).length ∧ 0 < k := by
  have := go_spec b s 0 0 false v k h
  simpa using this

theorem go_plain (b : Nat) : ∀ (s : List Char) (acc k : Nat) (last : Bool),
    (∀ c ∈ s, c ≠ '_') → (s ≠ [] ∨ (last = true ∧ 0 < k)) →
    digitsValue.go b s acc k last = (parseDigits b s acc).map (fun v => (v, k + s.length)) := by
  intro s acc k last
  fun_induction digitsValue.go b s acc k last <;> intro hns hend
  case case1 => rfl
  case case2 hc =>
    -- the end of the string is accepted only after a digit, which is what the second disjunct says
    obtain ⟨h1, h2⟩ := hend.resolve_left (· rfl)
    simp [h1, h2] at hc
  case case3 | case4 => exact absurd rfl (hns '_' List.mem_cons_self)
  case case5 hd hlt ih =>
    rw [ih (fun x hx => hns x (List.mem_cons_of_mem _ hx)) (.inr ⟨rfl, by omega⟩)]
    simp [parseDigits, hd, hlt, Nat.add_assoc, Nat.add_comm 1]
  case case6 hd hlt => simp [parseDigits, hd, hlt]
  case case7 hd => simp [parseDigits, hd]

theorem natDigits_no_underscore (b : Nat) (hb : 2 ≤ b) (hb16 : b ≤ 16) (w n : Nat) :
    ∀ c ∈ leftPad w (natDigits b n), c ≠ '_' := fun c hc =>
  ((numeral_leftPad_natDigits b hb hb16 w n).plain hb16 c hc).2.2.1

theorem digitsValue_natDigits (b : Nat) (hb : 2 ≤ b) (hb16 : b ≤ 16) (w n : Nat) :
    (digitsValue b (leftPad w (natDigits b n))).map (·.1) = some n := by
  have hd := numeral_leftPad_natDigits b hb hb16 w n
  rw [digitsValue, go_plain b _ 0 0 false (natDigits_no_underscore b hb hb16 w n) (Or.inl hd.ne_nil), hd.value]
  rfl

/-- the first three are witnesses of the repaired defect (a leading zero is just a zero); then base prefixes, a
    separator, a hexadecimal float, minus zero, a decimal fraction -/
theorem leading_zeros_do_not_change_base :
    value "010" = some (.num false 10 1) ∧ value "08" = some (.num false 8 1) ∧
    value "-007" = some (.num true 7 1) ∧ value "0x10" = some (.num false 16 1) ∧
    value "0o10" = some (.num false 8 1) ∧ value "0b10" = some (.num false 2 1) ∧
    value "1_000" = some (.num false 1000 1) ∧ value "0x1.8p1" = some (.num false 3 1) ∧
    value "-0" = some (.num true 0 1) ∧ value "2.5e-3" = some (.num false 1 400) := by decide +kernel

end CE.Props.C24

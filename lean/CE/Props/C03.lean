import CE.Rules.Machine
import CE.Rules.Spec
/-
  C03 — CBE and CTE are 1:1 convertible.

  C03 is C01 + C02 plus the gap between what the validator lets through and what the text grammar can spell.
  The chains CBE→CTE→CBE and CTE→CBE are decided by the oracle of `bin/check C03` (real codecs, `canonText` as
  the judge).  Proved here, after the repairs a4d8583 (times, media types) and 533bdc4 (comments): there is no
  gap.  The validator's content checks (model of Context.ValidateTime / ValidateComment / ValidateMediaType in
  CE/Rules/Machine.lean, run in lock step with the real validator) accept exactly what the independent
  grammar-side definitions in CE/Rules/Spec.lean (written from the CTE lexer: TIME/DATE field ranges,
  TZ_AREALOC, LINE_COMMENT, BLOCK_COMMENT, MEDIA_TYPE) call spellable: the four `_accepted_iff_spellable`
  theorems, for every time value, comment and media type.  String contents survive the escaping layer by C02
  `encoder_strings_roundtrip`.
-/
namespace CE.Props.C03
open CE CE.Rules

theorem dayMax_table (m : Nat) (h1 : 1 ≤ m) (h2 : m ≤ 12) :
    dayMax m = [31, 29, 31, 30, 31, 30, 31, 31, 30, 31, 30, 31].getD (m - 1) 0 := by
  have : ∀ m : Fin 13, m.val = 0 ∨ dayMax m.val = [31, 29, 31, 30, 31, 30, 31, 31, 30, 31, 30, 31].getD (m.val - 1) 0 := by
    decide +kernel
  exact (this ⟨m, Nat.lt_succ_of_le h2⟩).resolve_left (Nat.ne_of_gt h1)

/-- the validator's range checks are the negations of the grammar's, comparison by comparison -/
theorem not_lt_nat (a b : Nat) : (!decide (a < b)) = decide (b ≤ a) := by
  rw [← decide_not]; exact decide_eq_decide.mpr Nat.not_lt

theorem not_lt_int (a b : Int) : (!decide (a < b)) = decide (b ≤ a) := by
  rw [← decide_not]; exact decide_eq_decide.mpr Int.not_lt

theorem date_part (t : TimeV) : dateOK t = !Spec.dateBad t := by
  unfold dateOK Spec.dateBad
  by_cases hm : 1 ≤ t.month ∧ t.month ≤ 12
  · rw [dayMax_table t.month hm.1 hm.2]
    simp only [Bool.not_or, not_lt_nat, gt_iff_lt, bne]
  · -- a month out of range fails on both sides, whatever the day
    by_cases h1 : 1 ≤ t.month
    · have h2 : ¬ t.month ≤ 12 := fun h => hm ⟨h1, h⟩
      rw [decide_eq_false h2, decide_eq_true (Nat.not_le.mp h2)]
      simp only [Bool.and_false, Bool.false_and, Bool.or_true, Bool.true_or, Bool.not_true]
    · rw [decide_eq_false h1, decide_eq_true (Nat.not_le.mp h1)]
      simp only [Bool.and_false, Bool.false_and, Bool.or_true, Bool.true_or, Bool.not_true]

/-- the class of the characters of an area/location name after the first -/
def restOK (b : Nat) : Bool :=
  (65 ≤ b && b ≤ 90) || (97 ≤ b && b ≤ 122) || (48 ≤ b && b ≤ 57) || [95, 45, 46, 47, 43].contains b

theorem byte_upper : ∀ b, b < 128 → (Char.ofNat b).isUpper = (decide (65 ≤ b) && decide (b ≤ 90)) := by decide +kernel
theorem byte_rest : ∀ b, b < 128 →
    ((Char.ofNat b).isAlphanum || "_-./+".toList.contains (Char.ofNat b)) = restOK b := by decide +kernel
/-- a byte outside ASCII is below no ASCII bound -/
theorem high_not_le {x n : Nat} (h : 128 ≤ x) (hn : n < 128) : decide (x ≤ n) = false :=
  decide_eq_false (Nat.not_le.2 (Nat.lt_of_lt_of_le hn h))

/-- … and in no list of ASCII codes -/
theorem high_not_listed {x : Nat} (h : 128 ≤ x) (l : List Nat) (hl : ∀ y ∈ l, y < 128) : l.contains x = false :=
  Bool.eq_false_iff.2 fun hc => Nat.not_lt.2 h (hl x (List.contains_iff_mem.1 hc))

/-- `b < 256` is not used (the lemma is applied to bytes) -/
theorem high_not_rest : ∀ b, b < 256 → 128 ≤ b → restOK b = false := by
  intro b _ h
  unfold restOK
  rw [high_not_le h (by decide : 90 < 128), high_not_le h (by decide : 122 < 128), high_not_le h (by decide : 57 < 128),
    high_not_listed h _ (by decide)]
  simp only [Bool.and_false, Bool.or_false]

theorem high_not_upper : ∀ b, b < 256 → 128 ≤ b → (decide (65 ≤ b) && decide (b ≤ 90)) = false := by
  intro b _ h
  rw [high_not_le h (by decide : 90 < 128), Bool.and_false]

theorem zipIdx_all_of (F : Nat × Nat → Bool) (G : Nat → Bool) : ∀ (l : List Nat) (k : Nat),
    (∀ x i, k ≤ i → i < k + l.length → F (x, i) = G x) → (l.zipIdx k).all F = l.all G
  | [], _, _ => rfl
  | a :: l, k, h => by
    rw [List.zipIdx_cons, List.all_cons, List.all_cons, h a k (Nat.le_refl k) (by simp),
      zipIdx_all_of F G l (k + 1) fun x i h1 h2 => h x i (by omega) (by simp only [List.length_cons]; omega)]

theorem zipIdx_all_pos (l : List Nat) : ∀ k, 0 < k →
    (l.zipIdx k).all (fun p => (decide (65 ≤ p.1) && decide (p.1 ≤ 90)) ||
        (decide (p.2 > 0) && ((decide (97 ≤ p.1) && decide (p.1 ≤ 122)) || (decide (48 ≤ p.1) && decide (p.1 ≤ 57)) ||
          [95, 45, 46, 47, 43].contains p.1))) = l.all restOK := fun k hk =>
  zipIdx_all_of _ restOK l k fun x i hi _ => by
    have : i > 0 := by omega
    simp only [restOK, this, decide_true, Bool.true_and, Bool.or_assoc]

theorem all_ofNat (P : Char → Bool) (Q : Nat → Bool) (hPQ : ∀ b, b < 128 → P (Char.ofNat b) = Q b) :
    ∀ (l : List Nat), (∀ x ∈ l, x < 128) → (l.map Char.ofNat).all P = l.all Q
  | [], _ => rfl
  | a :: l, h => by
    rw [List.map_cons, List.all_cons, List.all_cons, hPQ a (h a (by simp)),
      all_ofNat P Q hPQ l fun x hx => h x (by simp [hx])]

theorem low_of_not_high (l : List UInt8) (h : ¬ l.any (fun b => decide (b.toNat ≥ 128)) = true) :
    ∀ x ∈ l.map (·.toNat), x < 128 := by
  intro x hx
  obtain ⟨b, hb, rfl⟩ := List.mem_map.mp hx
  exact Nat.lt_of_not_le fun h128 => h (List.any_eq_true.mpr ⟨b, hb, by simpa using h128⟩)

theorem rest_equiv (rest : List UInt8) :
    (rest.any (fun b => decide (b.toNat ≥ 128)) ||
      !((rest.map fun b => Char.ofNat b.toNat).all fun c => c.isAlphanum || "_-./+".toList.contains c)) =
    !((rest.map (·.toNat)).all restOK) := by
  by_cases hhigh : rest.any (fun b => decide (b.toNat ≥ 128)) = true
  · -- a byte outside ASCII is in no class
    obtain ⟨b, hb, h128⟩ := List.any_eq_true.mp hhigh
    have : (rest.map (·.toNat)).all restOK = false :=
      List.all_eq_false.mpr ⟨b.toNat, List.mem_map.mpr ⟨b, hb, rfl⟩, by
        rw [high_not_rest b.toNat b.toNat_lt (by simpa using h128)]; simp⟩
    rw [hhigh, this]; rfl
  · rw [Bool.not_eq_true] at hhigh
    rw [hhigh, Bool.false_or, ← all_ofNat (fun c => c.isAlphanum || "_-./+".toList.contains c) restOK byte_rest _
      (low_of_not_high rest (by simp [hhigh])), List.map_map]
    rfl

/-- the validator's area/location check is exactly the TZ_AREALOC token shape -/
theorem area_accepted_iff_spellable (name : Bytes) : areaLocOK name = !Spec.areaBad name := by
  unfold areaLocOK Spec.areaBad
  cases name with
  | nil => rfl
  | cons f rest =>
    have hf : f.toNat < 256 := f.toNat_lt
    simp only [List.length_cons, List.map_cons, List.zipIdx_cons, List.all_cons, List.isEmpty_cons,
      List.any_cons, Bool.false_or]
    rw [zipIdx_all_pos _ 1 (by omega)]
    have hlen1 : decide (rest.length + 1 ≥ 1) = true := by simp
    by_cases hlen : rest.length + 1 > 127
    · rw [decide_eq_false (Nat.not_le.2 hlen), decide_eq_true hlen]
      simp only [Bool.and_false, Bool.false_and, Bool.true_or, Bool.not_true]
    · have hle : rest.length + 1 ≤ 127 := Nat.le_of_not_lt hlen
      simp only [hlen1, hle, decide_true, Bool.true_and, hlen, decide_false, Bool.false_or,
        Nat.lt_irrefl, Bool.false_and, Bool.or_false]
      by_cases hhi : f.toNat ≥ 128
      · rw [high_not_upper f.toNat hf hhi, decide_eq_true hhi]
        simp only [Bool.false_and, Bool.true_or, Bool.not_true]
      · have hlo : f.toNat < 128 := Nat.lt_of_not_le hhi
        rw [decide_eq_false hhi, Bool.false_or, byte_upper f.toNat hlo]
        have hre := rest_equiv rest
        cases hu : (decide (65 ≤ f.toNat) && decide (f.toNat ≤ 90))
        · simp only [Bool.false_and, Bool.not_false, Bool.true_or, Bool.or_true, Bool.not_true]
        · simp only [Bool.true_and, Bool.not_true, Bool.false_or]
          rw [hre, Bool.not_not]

theorem zone_part (z : Zone) : zoneOK z = !Spec.zoneBad z := by
  cases z <;> simp [zoneOK, Spec.zoneBad, area_accepted_iff_spellable, not_lt_int]

theorem clock_part (t : TimeV) : clockOK t = !Spec.clockBad t := by
  simp [clockOK, Spec.clockBad, zone_part, not_lt_nat]

/-- `hk`: the three kinds are date, time and timestamp -/
theorem time_accepted_iff_spellable (t : TimeV) (hk : t.kind ≤ 2) : timeOK t = !Spec.timeBad t := by
  have hkind : t.kind = 0 ∨ t.kind = 1 ∨ t.kind = 2 := by omega
  unfold timeOK Spec.timeBad
  rcases hkind with h | h | h <;> simp [h, date_part, clock_part]

theorem line_comment_accepted_iff_spellable (s : Bytes) : commentOK false s = !Spec.commentBad false s := by
  unfold commentOK Spec.commentBad
  by_cases h : Utf8.valid s <;> simp [h]

theorem scan_base (f : Nat) (l : List Nat) (d d' : Nat) (en : Bool)
    (h : commentScan f l d = some (d', en)) (hb : f = 0 ∨ l = []) : en = false := by
  rcases hb with hb | hb
  · subst hb; simp [commentScan] at h; exact h.2
  · subst hb
    cases f with
    | zero => simp [commentScan] at h; exact h.2
    | succ f => simp [commentScan] at h; exact h.2

theorem go_other (f h : Nat) (r : List Nat) (d : Nat) (e : Bool)
    (h1 : ∀ rest, h = 47 → r = 42 :: rest → False) (h2 : ∀ rest, h = 42 → r = 47 :: rest → False) :
    Spec.commentBad.go (f + 1) (h :: r) d e = Spec.commentBad.go f r d false := by
  conv => lhs; unfold Spec.commentBad.go
  split
  · rename_i heq; simp at heq
  · rename_i _ heq; simp at heq
  · rename_i heq1 heq; simp at heq heq1; obtain ⟨a, b⟩ := heq; exact (h1 _ a b).elim
  · rename_i heq1 heq; simp at heq heq1; obtain ⟨a, b⟩ := heq; exact (h2 _ a b).elim
  · rename_i heq1 heq; simp at heq heq1; obtain ⟨a, b⟩ := heq; subst heq1; subst b; rfl

/-- once the grammar's scan takes a step, the flag it was started with is forgotten -/
theorem go_indep (f x : Nat) (r : List Nat) (d : Nat) (e : Bool) :
    Spec.commentBad.go (f + 1) (x :: r) d e = Spec.commentBad.go (f + 1) (x :: r) d false := by
  -- at `/*` and at `*/` both sides take the same step by definition; at another byte `go_other` applies
  by_cases h1 : ∃ rest, x = 47 ∧ r = 42 :: rest
  · obtain ⟨rest, rfl, rfl⟩ := h1
    rfl
  by_cases h2 : ∃ rest, x = 42 ∧ r = 47 :: rest
  · obtain ⟨rest, rfl, rfl⟩ := h2
    rfl
  have n1 : ∀ rest, x = 47 → r = 42 :: rest → False := fun rest a b => h1 ⟨rest, a, b⟩
  have n2 : ∀ rest, x = 42 → r = 47 :: rest → False := fun rest a b => h2 ⟨rest, a, b⟩
  rw [go_other f x r d e n1 n2, go_other f x r d false n1 n2]

/-- the validator's scan and the grammar's scan of a block comment are the same computation -/
theorem go_scan (f : Nat) (l : List Nat) (d : Nat) :
    Spec.commentBad.go f l d false = (commentScan f l d).elim (true, 0, false) fun p => (false, p.1, p.2) := by
  fun_induction commentScan f l d
  -- the cases of `commentScan`: no fuel; no input; `/*`; `*/` at depth 0, at the end, before more; another byte
  case case1 => simp [Spec.commentBad.go]
  case case2 => simp [Spec.commentBad.go]
  case case3 f rest depth ih => simpa [Spec.commentBad.go] using ih
  case case4 => simp [Spec.commentBad.go]
  case case5 f depth hd => cases f <;> simp [Spec.commentBad.go, hd]
  case case6 f rest depth hd hne ih =>
    have hemp : rest.isEmpty = false := by cases rest with | nil => exact (hne rfl).elim | cons _ _ => rfl
    simpa [Spec.commentBad.go, hd, hemp] using ih
  case case7 f head rest depth h1 h2 ih => rw [go_other f head rest depth false h1 h2]; exact ih

theorem scan_go (f : Nat) (l : List Nat) (d : Nat) : ∀ (e : Bool),
    match commentScan f l d with
    | none => (Spec.commentBad.go f l d e).1 = true
    | some (d', en) => Spec.commentBad.go f l d e = (false, d', if f = 0 ∨ l = [] then e else en) := by
  intro e
  match f, l with
  | 0, _ => simp [commentScan, Spec.commentBad.go]
  | _ + 1, [] => simp [commentScan, Spec.commentBad.go]
  | f + 1, x :: r =>
    rw [go_indep, go_scan]
    cases commentScan (f + 1) (x :: r) d <;> simp

theorem block_comment_accepted_iff_spellable (s : Bytes) : commentOK true s = !Spec.commentBad true s := by
  unfold commentOK Spec.commentBad
  by_cases hv : Utf8.valid s
  · simp only [hv, Bool.true_and, Bool.not_true, Bool.false_eq_true, if_false, go_scan]
    cases commentScan (s.length + 1) (s.map (·.toNat)) 0 with
    | none => rfl
    | some p =>
      obtain ⟨d', en⟩ := p
      simp only [Option.elim, bne, Bool.false_or]
      generalize (d' == 0) = A
      generalize (Option.map (fun x : UInt8 => x.toNat) s.getLast? == some 47) = L
      cases A <;> cases L <;> cases en <;> rfl
  · simp [hv]

theorem char_classes : ∀ b : Fin 128,
    (Char.ofNat b.val).isAlpha = ((97 ≤ b.val && b.val ≤ 122) || (65 ≤ b.val && b.val ≤ 90)) ∧
    Spec.mediaNext (Char.ofNat b.val) = mediaTypeChar b.val ∧
    decide (Char.ofNat b.val ≠ (Char.ofNat 47)) = decide (b.val ≠ 47) := by decide +kernel

theorem split47 : ∀ l : List Nat,
    (47 ∉ l ∧ l.idxOf? 47 = none) ∨
    ∃ pre post, l = pre ++ 47 :: post ∧ 47 ∉ pre ∧ l.idxOf? 47 = some pre.length
  | l => by
    by_cases h : 47 ∈ l
    · obtain ⟨pre, post, rfl, hpre⟩ := List.eq_append_cons_of_mem h
      have hn : pre.findIdx? (· == 47) = none := List.idxOf?_eq_none_iff.mpr hpre
      exact .inr ⟨pre, post, rfl, hpre, by simp [List.idxOf?, List.findIdx?_append, hn, List.findIdx?_cons]⟩
    · exact .inl ⟨h, List.idxOf?_eq_none_iff.mpr h⟩

theorem zipIdx_all_after (C : Nat → Bool) (k : Nat) : ∀ (post : List Nat) (m : Nat), k < m →
    (post.zipIdx m).all (fun p => p.2 == k || C p.1) = post.all C
  | post, m, h => zipIdx_all_of _ C post m fun x i hi _ => by
    have : (i == k) = false := by simp; omega
    simp only [this, Bool.false_or]

theorem zipIdx_all_split (C : Nat → Bool) : ∀ (pre post : List Nat) (n : Nat),
    ((pre ++ 47 :: post).zipIdx n).all (fun p => p.2 == n + pre.length || C p.1) = (pre.all C && post.all C)
  | pre, post, n => by
    rw [List.zipIdx_append, List.all_append, List.zipIdx_cons, List.all_cons,
      zipIdx_all_after C _ post _ (Nat.lt_succ_self _), beq_self_eq_true, Bool.true_or, Bool.true_and]
    congr 1
    exact zipIdx_all_of _ C pre n fun x i _ hi => by
      have : (i == n + pre.length) = false := by simp; omega
      simp only [this, Bool.false_or]

theorem span_loop_all {α} (p : α → Bool) : ∀ (l acc : List α), l.all p = true →
    List.span.loop p l acc = (acc.reverse ++ l, [])
  | [], acc, _ => by simp [List.span.loop]
  | a :: l, acc, h => by
    simp only [List.all_cons, Bool.and_eq_true] at h
    simp only [List.span.loop, h.1]
    rw [span_loop_all p l (a :: acc) h.2]
    simp

theorem span_loop_split {α} (p : α → Bool) (x : α) (hx : p x = false) : ∀ (pre post acc : List α), pre.all p = true →
    List.span.loop p (pre ++ x :: post) acc = (acc.reverse ++ pre, x :: post)
  | [], post, acc, _ => by simp [List.span.loop, hx]
  | a :: pre, post, acc, h => by
    simp only [List.all_cons, Bool.and_eq_true] at h
    simp only [List.cons_append, List.span.loop, h.1]
    rw [span_loop_split p x hx pre post (a :: acc) h.2]
    simp

theorem span_all {α} (p : α → Bool) (l : List α) (h : l.all p = true) : l.span p = (l, []) := by
  simp [List.span, span_loop_all p l [] h]

theorem span_split {α} (p : α → Bool) (x : α) (hx : p x = false) (pre post : List α) (h : pre.all p = true) :
    (pre ++ x :: post).span p = (pre, x :: post) := by
  simp [List.span, span_loop_split p x hx pre post [] h]

theorem cc (x : Nat) (h : x < 128) :
    (Char.ofNat x).isAlpha = ((97 ≤ x && x ≤ 122) || (65 ≤ x && x ≤ 90)) ∧
    Spec.mediaNext (Char.ofNat x) = mediaTypeChar x ∧
    decide (Char.ofNat x ≠ (Char.ofNat 47)) = decide (x ≠ 47) := char_classes ⟨x, h⟩

theorem slash_char : (Char.ofNat 47) = '/' := by decide

theorem all_next (l : List Nat) (h : ∀ x ∈ l, x < 128) :
    (l.map Char.ofNat).all Spec.mediaNext = l.all mediaTypeChar :=
  all_ofNat Spec.mediaNext mediaTypeChar (fun b hb => (cc b hb).2.1) l h

theorem all_not_slash (l : List Nat) (h : ∀ x ∈ l, x < 128) (h47 : 47 ∉ l) :
    (l.map Char.ofNat).all (fun c => decide (c ≠ '/')) = true := by
  rw [all_ofNat _ (fun x => decide (x ≠ 47)) (fun b hb => by rw [← slash_char]; exact (cc b hb).2.2) l h,
    List.all_eq_true]
  intro x hx
  simpa using fun e : x = 47 => h47 (e ▸ hx)

theorem high_not_media (x : Nat) (h : 128 ≤ x) : mediaTypeChar x = false := by
  unfold mediaTypeChar
  rw [high_not_le h (by decide : 90 < 128), high_not_le h (by decide : 122 < 128), high_not_le h (by decide : 57 < 128),
    high_not_listed h _ (by decide)]
  simp only [Bool.and_false, Bool.or_false]

theorem mediaTypeOK_split (mt : Bytes) (pre post : List Nat)
    (hl : mt.map (·.toNat) = pre ++ 47 :: post) (hidx : (mt.map (·.toNat)).idxOf? 47 = some pre.length) :
    mediaTypeOK mt =
      (decide (0 < pre.length) && decide (0 < post.length) &&
       (match pre.head? with | some c => (97 ≤ c && c ≤ 122) || (65 ≤ c && c ≤ 90) | none => false) &&
       (pre.all mediaTypeChar && post.all mediaTypeChar)) := by
  unfold mediaTypeOK
  simp only [hidx]
  rw [hl]
  have hz := zipIdx_all_split mediaTypeChar pre post 0
  simp only [Nat.zero_add] at hz
  rw [hz]
  have hlen : (pre ++ 47 :: post).length - 1 = pre.length + post.length := by simp
  rw [hlen]
  cases pre with
  | nil => rfl
  | cons a pre' =>
    rw [decide_eq_decide.2 (Nat.lt_add_right_iff_pos (n := (a :: pre').length))]
    rfl

theorem media_type_accepted_iff_spellable (mt : Bytes) : mediaTypeOK mt = !Spec.mediaTypeBad mt := by
  by_cases hhigh : mt.any (fun b => decide (b.toNat ≥ 128)) = true
  · -- a byte outside ASCII: the grammar cannot spell it, and it is neither the slash nor a media-type character
    have hbad : Spec.mediaTypeBad mt = true := by unfold Spec.mediaTypeBad; rw [if_pos hhigh]
    rw [hbad, Bool.not_true]
    obtain ⟨b, hb, hb128⟩ := List.any_eq_true.mp hhigh
    have hx128 : 128 ≤ b.toNat := by simpa using hb128
    have hnot : ∀ l : List Nat, b.toNat ∈ l → l.all mediaTypeChar = false := fun l hm =>
      List.all_eq_false.mpr ⟨_, hm, by rw [high_not_media _ hx128]; simp⟩
    rcases split47 (mt.map (·.toNat)) with ⟨_, hnone⟩ | ⟨pre, post, hl, _, hidx⟩
    · unfold mediaTypeOK; simp only [hnone]
    · rw [mediaTypeOK_split mt pre post hl hidx]
      have hx : b.toNat ∈ pre ++ 47 :: post := hl ▸ List.mem_map.mpr ⟨b, hb, rfl⟩
      rcases List.mem_append.mp hx with hm | hm
      · rw [hnot pre hm, Bool.false_and, Bool.and_false]
      · rcases List.mem_cons.mp hm with h47 | hm'
        · exact absurd (h47 ▸ hx128) (by decide)
        · rw [hnot post hm', Bool.and_false, Bool.and_false]
  · -- ASCII only
    have hlow := low_of_not_high mt hhigh
    have hcs : mt.map (fun b => Char.ofNat b.toNat) = (mt.map (·.toNat)).map Char.ofNat := by simp
    unfold Spec.mediaTypeBad
    rw [if_neg hhigh]
    simp only [hcs]
    rcases split47 (mt.map (·.toNat)) with ⟨hnot, hnone⟩ | ⟨pre, post, hl, hpre, hidx⟩
    · have hspan := span_all (fun c : Char => decide (c ≠ '/')) _ (all_not_slash _ hlow hnot)
      rw [hspan]
      unfold mediaTypeOK
      simp only [hnone, Bool.not_true]
    · rw [mediaTypeOK_split mt pre post hl hidx]
      have hlowpre : ∀ x ∈ pre, x < 128 := fun x hx => hlow x (hl ▸ List.mem_append_left _ hx)
      have hlowpost : ∀ x ∈ post, x < 128 := fun x hx =>
        hlow x (hl ▸ List.mem_append_right _ (List.mem_cons_of_mem _ hx))
      rw [hl]
      simp only [List.map_append, List.map_cons]
      have hspan := span_split (fun c : Char => decide (c ≠ '/')) (Char.ofNat 47) (by rw [slash_char]; rfl)
        (pre.map Char.ofNat) (post.map Char.ofNat) (all_not_slash pre hlowpre hpre)
      rw [hspan]
      simp only [slash_char]
      rw [all_next post hlowpost]
      cases pre with
      | nil => rfl
      | cons f rest =>
        have hf : f < 128 := hlowpre f List.mem_cons_self
        have hrest : ∀ x ∈ rest, x < 128 := fun x hx => hlowpre x (List.mem_cons_of_mem _ hx)
        simp only [List.map_cons, List.length_cons, List.head?_cons, List.all_cons]
        rw [(cc f hf).1, all_next rest hrest]
        cases hL : ((97 ≤ f && f ≤ 122) || (65 ≤ f && f ≤ 90))
        · simp only [Bool.and_false, Bool.false_and, Bool.not_false, Bool.true_or, Bool.not_true]
        · -- a letter is a media-type character
          have : mediaTypeChar f = true := by
            unfold mediaTypeChar; rw [hL]; rfl
          cases post <;> simp [this]

/-- non-vacuity: a leap second on a leap day in a named zone; hour 24; a lower-case area name -/
example : timeOK { kind := 2, year := 2020, month := 2, day := 29, hour := 23, minute := 59, second := 60,
                   nanos := 999999999, zone := .area "Europe/Berlin".toUTF8.toList } = true ∧
          timeOK { kind := 1, year := 0, month := 0, day := 0, hour := 24, minute := 0, second := 0, nanos := 0, zone := .utc } = false ∧
          timeOK { kind := 1, year := 0, month := 0, day := 0, hour := 1, minute := 0, second := 0, nanos := 0,
                   zone := .area "low".toUTF8.toList } = false := by decide +kernel

/-- non-vacuity of the media-type and block-comment theorems -/
example : mediaTypeOK "application/vnd.api+json".toUTF8.toList = true ∧ mediaTypeOK "^a/b".toUTF8.toList = false ∧
          mediaTypeOK "a/".toUTF8.toList = false ∧ mediaTypeOK "a b/c".toUTF8.toList = false ∧
          commentOK true "a /* b */ c".toUTF8.toList = true ∧ commentOK true "a */ b".toUTF8.toList = false ∧
          commentOK true "ends/".toUTF8.toList = false := by decide +kernel
end CE.Props.C03

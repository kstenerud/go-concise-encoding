import CE.Cte.Escape
import CE.Cte.Digits
import CE.Gen.Check
/-
  C02 — CTE encode/decode preserves every rules-valid event stream … including any string
  content.

  The whole-stream statement is decided by the oracle of `bin/check C02` (the real encoder and
  decoder with rules; `canonText`, the Lean definition of "carries the same data", judges the
  result).  Proved here, for every sequence of Unicode scalar values: the escaping layer of the encoder
  (cte/escapes.go escapeCharQuoted / unicodeEscape, cte/encoder_writer.go WriteQuotedString:
  a character is written as it is when the safety table allows it, otherwise as a named escape
  or as \[hex]) followed by the reference semantics of string literals (CE/Cte/Lit.lean
  `strValue`, the reading the C24 check holds the decoder to) is the identity.
  The safety table is a parameter: all the theorem needs from it is that it never lets a
  backslash or a double quote through — `safe_table_ok` discharges that for the table extracted
  from internal/chars on this run.
-/
namespace CE.Props.C02
open CE.Cte.Lit CE.Cte.ArrFmt CE.Cte.Escape

theorem hexDigits_no_bracket (n : Nat) : ∀ c ∈ natDigits 16 n, c ≠ ']' := fun c hc =>
  ((numeral_natDigits 16 (by omega) (by omega) n).plain (by omega) c hc).2.2.2

theorem breakOn_split (p : Char → Bool) (x : Char) (hx : p x = true) (r : List Char) :
    ∀ l : List Char, (∀ c ∈ l, p c = false) → breakOn p (l ++ x :: r) = (l, x :: r)
  | [], _ => by simp [breakOn, hx]
  | c :: l, h => by
    simp [breakOn, h c (by simp), breakOn_split p x hx r l fun c hc => h c (by simp [hc])]

theorem breakOn_hex (n : Nat) (rest : List Char) :
    breakOn (· = ']') (natDigits 16 n ++ ']' :: rest) = (natDigits 16 n, ']' :: rest) :=
  breakOn_split _ ']' (by simp) rest _ fun c hc => by simpa using hexDigits_no_bracket n c hc

theorem char_valid_scalar (c : Char) : validScalar c.toNat = true := by
  have hv := c.valid
  simp only [validScalar, Bool.or_eq_true, decide_eq_true_eq, Bool.and_eq_true, Char.toNat]
  rcases hv with h | h
  · left; exact h
  · right; exact ⟨by have := h.1; omega, h.2⟩

theorem strValue_escapeUnsafe (fuel : Nat) (c : Char) (rest : List Char) :
    strValue (fuel + 1) (escapeUnsafe c ++ rest) = (strValue fuel rest).map (c.toNat :: ·) := by
  fun_cases escapeUnsafe c
  case case8 =>
    simp only [List.cons_append, List.nil_append, List.append_assoc, strValue, if_true]
    rw [breakOn_hex]
    have hd := numeral_natDigits 16 (by omega) (by omega) c.toNat
    simp only [List.isEmpty_eq_false_iff.mpr hd.ne_nil, Bool.false_eq_true, if_false, hd.value]
    simp [char_valid_scalar]
  -- the seven named escapes
  all_goals subst_vars; simp [strValue]

theorem escape_roundtrip (safe : Char → Bool) (hq : safe '"' = false) (hb : safe '\\' = false) :
    ∀ (s : List Char) (fuel : Nat), s.length < fuel →
      strValue fuel (escape safe s) = some (s.map Char.toNat) := by
  intro s
  induction s with
  | nil => intro fuel h; cases fuel with | zero => omega | succ f => simp [escape, strValue]
  | cons c cs ih =>
    intro fuel h
    cases fuel with
    | zero => omega
    | succ f =>
      have hrec := ih f (by simp at h; omega)
      unfold escape at hrec ⊢
      simp only [List.flatMap_cons, escapeChar]
      by_cases hs : safe c = true
      · simp only [hs, if_true, List.cons_append, List.nil_append]
        have hcq : c ≠ '"' := by intro e; rw [e, hq] at hs; cases hs
        have hcb : c ≠ '\\' := by intro e; rw [e, hb] at hs; cases hs
        simp [strValue, hcq, hcb, hrec]
      · simp only [hs, Bool.false_eq_true, if_false]
        rw [strValue_escapeUnsafe, hrec]
        rfl

/-- the table is the one extracted on this run: `stringlikeSafe_eq` (CE/Gen/Check.lean) -/
theorem safe_table_ok : tableSafe '"' = false ∧ tableSafe '\\' = false := by decide +kernel

theorem encoder_strings_roundtrip (s : List Char) :
    strValue (s.length + 1) (escape tableSafe s) = some (s.map Char.toNat) :=
  escape_roundtrip tableSafe safe_table_ok.1 safe_table_ok.2 s (s.length + 1) (by omega)

/-- non-vacuity: quotes, backslash, a control character, a line separator and a supplementary
    plane character under a table that allows only ASCII letters -/
example :
    let safe : Char → Bool := fun c => c.isAlpha
    let s := ['a', '"', '\\', '\x01', '\n', Char.ofNat 0x2028, Char.ofNat 0x1F600, 'z']
    String.ofList (escape safe s) = "a\\\"\\\\\\[1]\\n\\[2028]\\[1f600]z" ∧
    strValue 20 (escape safe s) = some (s.map Char.toNat) := by decide +kernel

end CE.Props.C02

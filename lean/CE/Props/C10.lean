import CE.Rules.Basics
import CE.Rules.Table
import CE.Rules.Spec
/-
  C10 — the validator accepts exactly the structurally well-formed documents.

  Full statement (not proved; a target):
    ∀ evs, Rules.accepts env evs = true ↔ (Spec.check c evs).structural = none ∧ (Spec.check c evs).globalOK
    and rejection happens at the index the grammar gives.
  `Spec.check` (CE/Rules/Spec.lean) is the independent recursive-descent grammar; the
  equivalence is exercised on every run by the WF.REL oracle (random, mutated and exhaustive
  short sequences).  Proved here: the clauses of the property that are facts about the rule
  table — which GenCheck ties, rule by rule, to the table translated from /repo — for every
  rule and every method: each is an evaluation of the finite table (`decide`; the sweeps over all
  rules or all methods by the kernel).
-/
namespace CE.Props.C10
open CE.Rules CE.Rules.Model

def rejects (r : Rule) (m : Method) : Bool := ruleTable r m == [.wrongType]

/-- "begin, version 0 …": before the version only begin-document / version are possible,
    and after the end nothing is. -/
theorem header_and_terminal :
    (∀ m ∈ Method.all, m ≠ .onBeginDocument → rejects .beginDocument m = true) ∧
    (∀ m ∈ Method.all, m ≠ .onVersion → rejects .version m = true) ∧
    (∀ m ∈ Method.all, rejects .terminal m = true) ∧
    (∀ m ∈ Method.all, m ≠ .onEndDocument → rejects .endDocument m = true) ∧
    ruleTable .version .onVersion = [.checkVersion, .changeRule .topLevel] := by decide +kernel

/-- only the rule reached after the single top-level object accepts end-of-document -/
theorem endDocument_only_after_top_level :
    ∀ r ∈ Rule.all, r ≠ .endDocument → rejects r .onEndDocument = true := by decide +kernel

/-- "map entries alternate a keyable key with a value": in key position null, non-keyable
    scalars and every container are rejected; a keyable object moves to value position and a
    value moves back to key position. -/
theorem map_key_position :
    rejects .mapKey .onNull = true ∧ rejects .mapKey .onNonKeyableObject = true ∧
    rejects .mapKey .onList = true ∧ rejects .mapKey .onMap = true ∧ rejects .mapKey .onEdge = true ∧
    rejects .mapKey .onNode = true ∧ rejects .mapKey .onRecord = true ∧ rejects .mapKey .onRecordType = true ∧
    ruleTable .mapKey .onKeyableObject = [.notifyKey, .changeRule .mapValue] ∧
    ruleTable .mapValue .onKeyableObject = [.changeRule .mapKey] ∧
    ruleTable .mapValue .onNull = [.changeRule .mapKey] ∧
    rejects .mapValue .onEnd = true := by decide

/-- "edges have exactly three parts with a non-null source and destination" -/
theorem edge_parts :
    rejects .edgeSource .onNull = true ∧ rejects .edgeDestination .onNull = true ∧
    rejects .edgeSource .onEnd = true ∧ rejects .edgeDescription .onEnd = true ∧
    ruleTable .edgeSource .onKeyableObject = [.changeRule .edgeDescription] ∧
    ruleTable .edgeDescription .onKeyableObject = [.changeRule .edgeDestination] ∧
    ruleTable .edgeDescription .onNull = [.changeRule .edgeDestination] ∧
    ruleTable .edgeDestination .onEnd = [.endContainer true] := by decide

/-- "nodes have a value": a node cannot end before its value -/
theorem node_has_value :
    rejects .node .onEnd = true ∧ ruleTable .node .onNull = [.changeRule .list] ∧
    ruleTable .list .onEnd = [.endContainer true] := by decide

/-- "optional record types only before the single top-level object": every rule either
    rejects a record type outright or goes through `beginRecordType`, which requires an
    empty stack (`Machine.actBeginRecordType`). -/
theorem record_type_only_via_begin :
    ∀ r ∈ Rule.all, rejects r .onRecordType = true ∨ ruleTable r .onRecordType = [.beginRecordType] := by
  decide +kernel

/-- markers are not placed on markers, references or record types; no comment between a
    marker and its object -/
theorem marker_targets :
    rejects .markedObjectAnyType .onMarker = true ∧ rejects .markedObjectAnyType .onReferenceLocal = true ∧
    rejects .markedObjectAnyType .onRecordType = true ∧ rejects .markedObjectKeyable .onMarker = true ∧
    rejects .markedObjectKeyable .onReferenceLocal = true ∧ rejects .markedObjectKeyable .onRecordType = true ∧
    rejects .markedObjectKeyable .onNull = true ∧ rejects .markedObjectKeyable .onNonKeyableObject = true := by
  decide

/-- no translated statement is unknown to the interpreter -/
theorem table_fully_translated :
    ∀ r ∈ Rule.all, ∀ m ∈ Method.all, ∀ a ∈ ruleTable r m,
      (match a with | .unknown _ => false | _ => true) = true := by decide +kernel

theorem Rule.all_complete (r : Rule) : r ∈ Rule.all := rule_mem_all r
theorem Method.all_complete (m : Method) : m ∈ Method.all := method_mem_all m

/-- non-vacuity / sanity: the model accepts a small well-formed document and the grammar agrees -/
example :
    let evs : List Ev := [.beginDoc, .version 0, .list, .posInt 1, .endContainer, .endDoc]
    Rules.accepts { tbl := ruleTable, identSafe := fun _ => true } evs = true ∧
    (Spec.check { cfg := {}, identSafe := fun _ => true } evs).structural = none := by
  decide +kernel

end CE.Props.C10

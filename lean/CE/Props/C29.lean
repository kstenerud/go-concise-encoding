import CE.Io.ReaderProofs
import CE.Io.Writer
/-
  C29 — I/O failures are always reported.

  Read side: a source that fails with a non-EOF error after k bytes — at any k, delivering the
  error with or without the bytes before it, under any legal delivery schedule — makes every
  read that reaches the failure return that error: `readAll` yields the k bytes and then the
  failure (never end-of-file), a full read needing more than k bytes fails.  The decode loop
  ends only on end-of-file from ReadTypeOrEOF, so the failure cannot be mistaken for the end
  of the document.
  Write side: with every Write result threaded as the encoders do (error ⇒ panic ⇒ recovered
  into the returned error), a destination that stops accepting bytes before the document is
  complete always yields the error, whatever the division into Write calls.
  Modelled, not verified: that marshal/encode/unmarshal/decode entry points install the
  recover and that all writes go through writeBytes (tied by the C29 fault enumeration: every
  failure offset of every generated document and value, all entry points).
-/
namespace CE.Props.C29
open CE CE.Io

theorem read_fault_reported_bytewise (bs : Bytes) (k : Nat) (hk : k ≤ bs.length)
    (sched : Nat → Nat) (withData : Bool) (hl : Legal sched) :
    readAll (k + 1) { src := { data := bs, sched := sched, failIn := some k, failWithData := withData } }
      = (bs.take k, some .fault) :=
  readAll_yields _ _ _ .fault (yields_failing bs k hk sched withData hl) (by rw [List.length_take]; omega)

theorem read_fault_reported_full (bs : Bytes) (k n : Nat) (hk : k ≤ bs.length) (hn : k < n)
    (sched : Nat → Nat) (withData : Bool) (hl : Legal sched) :
    readFull { src := { data := bs, sched := sched, failIn := some k, failWithData := withData } } n = .error .fault := by
  have := readFull_yields _ _ .fault n (yields_failing bs k hk sched withData hl)
  rwa [if_neg (by rw [List.length_take]; omega)] at this

theorem write_fault_reported (cap : Nat) (chunks : List Bytes) (h : totalLen chunks > cap) :
    writeAll cap 0 chunks = .error .fault :=
  Io.write_fault_reported cap chunks 0 (by omega) (by omega)

end CE.Props.C29

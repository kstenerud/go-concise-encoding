import CE.Arr.LE
/-
  C26 — array byte-conversion helpers are exact little-endian inverses.

  `toLE w` / `fromLE w` model internal/arrays' <T>SliceAsBytes / BytesTo<T>Slice for element
  width w ∈ {1, 2, 4, 8} bytes on unsigned bit patterns (the byte-wise path; signed and float
  element types reinterpret the same bits, which the C26 correspondence checks bit-exactly,
  NaN payloads included).  On this host the `unsafe` fast path of arrays_impurego.go is dead
  code because the endianness probe is inverted (observation D29 in DESIGN.md): the theorems
  are about the path the binary runs, and the correspondence would expose the other one.
-/
namespace CE.Props.C26
open CE CE.Arr

theorem bytes_to_slice_inverts_slice_to_bytes (w : Nat) (hw : 0 < w) (xs : List Nat)
    (h : ∀ x ∈ xs, x < 256 ^ w) : fromLE w (toLE w xs) = xs := fromLE_toLE w hw xs h

theorem slice_to_bytes_inverts_bytes_to_slice (w : Nat) (hw : 0 < w) (bs : Bytes)
    (h : bs.length % w = 0) : toLE w (fromLE w bs) = bs := toLE_fromLE w hw bs h

theorem little_endian_element_order (w x i : Nat) (hi : i < w) :
    (leBytes w x)[i]? = some ((x / 256 ^ i % 256).toUInt8) := by
  induction w generalizing x i with
  | zero => omega
  | succ w ih =>
    cases i with
    | zero => simp [leBytes]
    | succ i =>
      simp only [leBytes, List.getElem?_cons_succ]
      rw [ih (x / 256) i (by omega)]
      congr 2
      rw [Nat.pow_succ, Nat.div_div_eq_div_mul, Nat.mul_comm]

theorem slice_to_bytes_length (w : Nat) (xs : List Nat) : (toLE w xs).length = w * xs.length :=
  toLE_length w xs

/-- non-vacuity: uint16 0x1234 is the bytes 34 12 -/
example : toLE 2 [0x1234] = [0x34, 0x12] ∧ fromLE 2 [0x34, 0x12, 0xff] = [0x1234] := by decide

end CE.Props.C26

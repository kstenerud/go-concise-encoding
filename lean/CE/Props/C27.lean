import CE.Api.Dispatch
import CE.Gen.Api
/-
  C27 — format detection and version headers are handled consistently.

  The subject of these theorems is the dispatch/version table extracted from /repo on this
  run (CE/Gen/Api.lean): the property quantifies over whatever entry points exist, so the
  generated facts themselves are what must satisfy it.
  Beyond the table, "treats any document exactly as the format-specific entry point would"
  is carried by the C27 correspondence: every first byte 0–255 × versions × bodies through
  universal and specific decode/unmarshal entry points, results and error classes compared.
-/
namespace CE.Props.C27
open CE.Api CE.Gen

theorem detect_none {cases : List (Nat × String)} {b : Nat} (h : ∀ c ∈ cases, c.1 ≠ b) :
    detect cases b = none := by
  have : cases.find? (·.1 == b) = none := List.find?_eq_none.2 fun c hc => by simpa using h c hc
  rw [detect, this]

/-- universal decode and universal unmarshal detect the format identically, for every byte
    (the two extracted case tables evaluated on the 256 bytes) -/
theorem universal_entry_points_agree :
    ∀ b, b < 256 → detect decoderCases b = detect unmarshalerCases b := by decide +kernel

/-- the CTE header letter in either case and the CBE signature byte are recognised, and
    nothing else -/
theorem detection_table :
    detect decoderCases 99 = some .cte ∧ detect decoderCases 67 = some .cte ∧
    detect decoderCases 0x81 = some .cbe ∧
    (∀ b, b < 256 → b ≠ 99 → b ≠ 67 → b ≠ 0x81 → detect decoderCases b = none) := by
  refine ⟨by decide, by decide, by decide, fun b _ h1 h2 h3 => detect_none fun c hc => ?_⟩
  -- the switch names these three bytes only
  have : c.1 = 99 ∨ c.1 = 67 ∨ c.1 = 0x81 :=
    (by decide : ∀ c ∈ decoderCases, c.1 = 99 ∨ c.1 = 67 ∨ c.1 = 0x81) c hc
  rcases this with h | h | h <;> rw [h] <;> exact Ne.symm ‹_›

/-- one `if ver == a { ver = b }` step -/
theorem versionAccepted_single (a b lib v : Nat) :
    versionAccepted [(a, b)] lib v = if a = v then b == lib else v == lib := by
  by_cases h : a = v
  · simp [versionAccepted, mapVersion, List.find?, h]
  · simp [versionAccepted, mapVersion, List.find?, h, beq_false_of_ne h]

/-- the map and the version are variables with equations, which the extracted constants meet by `rfl` -/
theorem accepts_0_and_1 {m : List (Nat × Nat)} {lib : Nat} (hm : m = [(1, 0)]) (hl : lib = 0) (v : Nat) :
    versionAccepted m lib v = true ↔ (v = 0 ∨ v = 1) := by
  rw [hm, hl, versionAccepted_single]
  by_cases h : 1 = v
  · rw [if_pos h]
    exact ⟨fun _ => .inr h.symm, fun _ => rfl⟩
  · rw [if_neg h, beq_iff_eq]
    exact ⟨.inl, fun h' => h'.resolve_right fun e => h e.symm⟩

/-- both formats accept exactly the pre-release versions 0 and 1 (every other number,
    of any size, is rejected by the version rule) -/
theorem versions_0_and_1_cbe (v : Nat) :
    versionAccepted cbeVersionMap libVersion v = true ↔ (v = 0 ∨ v = 1) :=
  accepts_0_and_1 rfl rfl v

theorem versions_0_and_1_cte (v : Nat) :
    versionAccepted cteVersionMap libVersion v = true ↔ (v = 0 ∨ v = 1) :=
  accepts_0_and_1 rfl rfl v

/-- both decoders forward the mapped version; the CTE lexer admits exactly the digits 0 and 1;
    marshalers emit the library version, which is 0 -/
theorem version_plumbing :
    cbeForwardsMapped = true ∧ cteForwardsMapped = true ∧ cteLexerVersions = [0, 1] ∧
    marshalersEmitLibVersion = true ∧ libVersion = 0 := by decide

end CE.Props.C27

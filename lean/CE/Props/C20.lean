import CE.Marshal.GraphProofs
/-
  C20 — shared and cyclic pointers survive a round trip with recursion support.

  Model: CE/Marshal/Graph.lean — the duplicate-pointer pass and the marker / reference emission
  of the iterator over an arbitrary heap (any number of nodes, any pointers, cycles and
  self-loops included), run against the real iterator on generated graphs (GRAPH.EMIT).
  Theorems, for every heap, every set of shared pointers and every root:
  * `references_follow_their_markers` — in the emitted stream every marker introduces a pointer
    that has no marker yet, and every reference names a pointer whose marker has already been
    emitted (`Graph.wf`: the conditions C13 puts on markers and references, restated for this
    model's events; no theorem links it to the validator model);
  * `named_pointers_are_the_markers` — the pointers named at the end are the markers emitted.
  * `emission_does_not_depend_on_fuel` — the emission functions take a fuel argument (the heap may
    be cyclic); what they return with some fuel they return with any larger amount, so two runs of
    `emitPtr` with the same set of shared pointers that both finish agree.  (`emitRoot` takes that
    set from the duplicate pass `findDups`, run with the same fuel; no theorem is about that pass.)
  Not theorems: termination of the emission (the duplicate pass marks at least one pointer on
  every cycle) and the isomorphism of the rebuilt graph are decided by the oracle of
  `bin/check C20` (watchdog + parallel-walk bijection).
-/
namespace CE.Props.C20
open CE.Marshal.Graph

theorem references_follow_their_markers (h : Heap) (fuel root : Nat) (out : List GEv)
    (hout : emitRoot h fuel root = some out) : wf [] out = true := by
  unfold emitRoot at hout
  simp only [Option.map_eq_some_iff] at hout
  obtain ⟨⟨o, n⟩, he, rfl⟩ := hout
  exact ((emit_spec h _).1 fuel [] root (o, n) he).whole.1

theorem named_pointers_are_the_markers (h : Heap) (shared : Nat → Bool) (fuel root : Nat)
    (out : List GEv) (named : List Nat) (he : emitPtr h shared fuel [] root = some (out, named)) :
    named = knownAfter [] out :=
  ((emit_spec h shared).1 fuel [] root (out, named) he).whole.2

theorem emission_does_not_depend_on_fuel (h : Heap) (shared : Nat → Bool) (f1 f2 : Nat) (named : List Nat) (root : Nat)
    (r1 r2 : List GEv × List Nat)
    (h1 : emitPtr h shared f1 named root = some r1) (h2 : emitPtr h shared f2 named root = some r2) : r1 = r2 := by
  rcases Nat.le_total f1 f2 with hle | hle
  · exact Option.some.inj ((emitPtr_fuel_le h shared named root r1 hle h1).symm.trans h2)
  · exact Option.some.inj (h1.symm.trans (emitPtr_fuel_le h shared named root r2 hle h2))

/-- non-vacuity: a two-node cycle with a self-loop -/
example :
    let h : Heap := fun i => if i = 0 then { ptrs := [some 1, some 0] } else { ptrs := [some 0, none] }
    (emitRoot h 50 0).map (fun l => l.map GEv.text) =
      some ["M0", "N0", "N1", "R0", "0", "0", ")", "R0", "0", ")"] := by decide

end CE.Props.C20

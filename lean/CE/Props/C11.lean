import CE.Rules.TextSplit
/-
  C11 — array validation ignores how the data is split.

  What holds inside one chunk is proved here; the bookkeeping across several chunks (zero-length chunks,
  the final-chunk flag, the running total) is not a theorem: correspondence and oracle carry it.

  Binary half (`arrayChunk` rule: u8…f64, uid, bit, media, custom binary): any division of a chunk's bytes
  among data events, empty ones included, in which only the last event may complete the chunk (an event
  after the completing one meets another rule) gives the same state, error or completion as one event.
  Text half (`stringChunk` rule: strings, resource ids, remote references, custom text; `StreamStringData`):
  * `text_accepts_iff_valid_utf8` — for every division of a chunk's bytes among data events (inside
    characters, empty events, bytes that start no character) the streaming validator accepts all events and
    ends with nothing pending exactly when the concatenation is valid UTF-8.  Hence "every chunk ends on a
    character boundary" and "the contents are valid UTF-8" are one condition per chunk, as the property says.
  * `text_split_irrelevant` — on the rule machine: `ds` and then the event that completes the chunk give the
    same result (both rejected, or the same state) as the single event `ds.flatten ++ d`.
  The models of `StreamStringData` / `IndexOfLastRuneStart` / `CalculateRuneByteCount` are tied to the code
  by the RULES correspondence on every split of every generated chunking.
-/
namespace CE.Props.C11
open CE CE.Rules

theorem binary_split_irrelevant (cfg : Cfg) (f : Bytes → Bool) (s : RState) (ds : List Bytes) (d : Bytes)
    (hr : s.cur.rule = .arrayChunk) (h : s.chunkActual + totalLen ds < s.chunkExpected) :
    (feed (env0 cfg f) s ds).bind (fun s' => stepS (env0 cfg f) s' (.arrayData d))
      = stepS (env0 cfg f) s (.arrayData (ds.flatten ++ d)) := by
  induction ds generalizing s with
  | nil => rfl
  | cons d0 ds ih =>
    rw [totalLen_cons, ← Nat.add_assoc] at h
    have h0 : s.chunkActual + d0.length < s.chunkExpected := Nat.lt_of_le_of_lt (Nat.le_add_right ..) h
    -- the first event only advances the byte counter, and the outcome depends on the counter alone
    rw [feed, stepS_arrayChunk cfg f s d0 hr, if_neg (Nat.lt_asymm h0), if_neg (Nat.ne_of_lt h0), Except.bind,
      ih { s with chunkActual := s.chunkActual + d0.length } hr h,
      stepS_arrayChunk cfg f { s with chunkActual := s.chunkActual + d0.length } _ hr, stepS_arrayChunk cfg f s _ hr]
    simp only [List.flatten_cons, List.append_assoc, List.length_append, Nat.add_assoc]

theorem binary_same_bytes_same_verdict (cfg : Cfg) (f : Bytes → Bool) (s : RState)
    (ds ds' : List Bytes) (d d' : Bytes) (hr : s.cur.rule = .arrayChunk)
    (h : s.chunkActual + totalLen ds < s.chunkExpected) (h' : s.chunkActual + totalLen ds' < s.chunkExpected)
    (hcat : ds.flatten ++ d = ds'.flatten ++ d') :
    (feed (env0 cfg f) s ds).bind (fun s' => stepS (env0 cfg f) s' (.arrayData d))
      = (feed (env0 cfg f) s ds').bind (fun s' => stepS (env0 cfg f) s' (.arrayData d')) := by
  rw [binary_split_irrelevant cfg f s ds d hr h, binary_split_irrelevant cfg f s ds' d' hr h', hcat]

theorem binary_overflow_rejected (cfg : Cfg) (f : Bytes → Bool) (s : RState) (d : Bytes)
    (hr : s.cur.rule = .arrayChunk) (h : s.chunkActual + d.length > s.chunkExpected) :
    stepS (env0 cfg f) s (.arrayData d) = .error .chunkOverflow := by
  rw [stepS_arrayChunk cfg f s d hr, if_pos h]

theorem text_accepts_iff_valid_utf8 (ds : List Bytes) :
    (∃ pv, Utf8.sfeed [] ds = some ([], pv)) ↔ Utf8.valid ds.flatten = true := by
  simpa using Utf8.sfeed_accepts_iff_valid [] ds .nil

theorem text_accepted_bytes (ds : List Bytes) (pv : Bytes) (h : Utf8.sfeed [] ds = some ([], pv)) :
    pv = ds.flatten := by
  simpa using Utf8.sfeed_validated [] ds .nil pv h

theorem text_same_bytes_same_verdict (ds ds' : List Bytes) (h : ds.flatten = ds'.flatten) :
    (∃ pv, Utf8.sfeed [] ds = some ([], pv)) ↔ (∃ pv, Utf8.sfeed [] ds' = some ([], pv)) := by
  rw [text_accepts_iff_valid_utf8, text_accepts_iff_valid_utf8, h]

theorem machine_text_event (cfg : Cfg) (f : Bytes → Bool) (s : RState) (d : Bytes)
    (hr : s.cur.rule = .stringChunk) (hv : s.validator = .string) (h : s.chunkActual + d.length < s.chunkExpected) :
    (stepS (env0 cfg f) s (.arrayData d)).toOption = (Utf8.sstep s.utf8Rem d).map (textAdvance s d) := by
  rw [stepS_text cfg f s d hr hv (by omega), if_neg (by omega)]

theorem text_split_irrelevant (cfg : Cfg) (f : Bytes → Bool) (s : RState) (ds : List Bytes) (d : Bytes)
    (hr : s.cur.rule = .stringChunk) (hv : s.validator = .string) (hrem : s.utf8Rem = [])
    (hd : 0 < d.length) (hfill : s.chunkActual + totalLen ds + d.length = s.chunkExpected) :
    ((feed (env0 cfg f) s ds).bind (fun s' => stepS (env0 cfg f) s' (.arrayData d))).toOption
      = (stepS (env0 cfg f) s (.arrayData (ds.flatten ++ d))).toOption :=
  text_any_split cfg f s ds d hr hv (hrem ▸ .nil) hd hfill

/-- non-vacuity: "é" (C3 A9) split inside the character is accepted, a lone lead byte is not -/
example : Utf8.sfeed [] [[0x61, 0xC3], [0xA9, 0x62]] = some ([], [0x61, 0xC3, 0xA9, 0x62]) ∧
    Utf8.sfeed [] [[0x61, 0xC3]] = some ([0xC3], [0x61]) ∧ Utf8.sfeed [] [[0xC3], [0x62]] = none := by decide +kernel

/-- non-vacuity: a state meets the hypotheses -/
example : ∃ s : RState, s.cur.rule = .arrayChunk ∧ s.chunkActual + totalLen [[1], [2, 3]] < s.chunkExpected :=
  ⟨{ cur := { rule := .arrayChunk }, chunkExpected := 8 }, rfl, by decide⟩

end CE.Props.C11

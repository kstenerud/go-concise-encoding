import CE.Cbe.Encode
/-
  C18 — marshaling never modifies the value being marshaled.

  The CBE encoder is the one place where the code handles a caller-owned big number through
  mutating big.Int operations (OnBigInt).  The model's `encBigInt` returns, next to the bytes,
  the value the caller's *big.Int holds after the call; since commit ca45ef1 it negates into a copy
  (`new(big.Int).Neg(value)`).
-/
namespace CE.Props.C18
open CE CE.Cbe

theorem encode_preserves_bigint (i : Int) : (encBigInt i).2 = i := by
  fun_cases encBigInt i <;> rfl

/-- the bytes are those of the magnitude with the sign in the type code, as before ca45ef1 -/
theorem encode_bigint_bytes_negative (i : Int) (h1 : i < -(2 : Int) ^ 63) (h2 : (-i).toNat < 2 ^ 64) :
    (encBigInt i).1 = encNegInt (-i).toNat := by
  unfold encBigInt
  rw [if_pos (Int.lt_trans h1 (by decide)), if_neg (Int.not_le.2 h1), if_pos h2]

example : (encBigInt (-(2 : Int) ^ 63 - 1)).2 = -(2 : Int) ^ 63 - 1 := encode_preserves_bigint _

end CE.Props.C18

import CE.Conv.Int
/-
  C19 — numeric unmarshaling is exact or fails.

  Proved (integer sources into integer destinations of every width w ≥ 1: int64 and big-integer
  sources into signed ones, int64, uint64 and big-integer sources into unsigned ones; a uint64
  source into a signed destination appears in the example only): each conversion succeeds
  *exactly* when the mathematical value fits the destination, and then stores that value —
  it never wraps or truncates, and never rejects a value that fits.
  Not theorems: conversions involving floats (setIntFromFloat's post-store comparison,
  setFloatFromInt's round-trip test, amd64's out-of-range float→int result), big.Float and
  decimal sources are decided on every run by the exact-rational oracle of bin/check C19
  (every event form × 18 destination types, boundary magnitudes).
-/
namespace CE.Props.C19
open CE.Conv

theorem two_pow_le (a b : Nat) (h : a ≤ b) : (2 : Int) ^ a ≤ 2 ^ b := by
  exact_mod_cast Nat.pow_le_pow_right (by decide : 0 < 2) h

theorem int_from_int_exact_iff (w : Nat) (hw : 0 < w) (v x : Int) :
    setIntFromInt w v = some x ↔ (x = v ∧ inS w v) :=
  store_compare_iff (wrapS_eq_self w hw) v x

theorem uint_from_uint_exact_iff (w : Nat) (v x : Int) :
    setUintFromUint w v = some x ↔ (x = v ∧ inU w v) :=
  store_compare_iff (wrapU_eq_self w) v x

theorem uint_from_int_exact_iff (w : Nat) (v x : Int) :
    setUintFromInt w v = some x ↔ (x = v ∧ inU w v) :=
  guard_iff (uint_from_uint_exact_iff w v x) fun h => Int.not_lt.2 h.2.1

theorem uint_from_bigint_exact_iff (w : Nat) (hw : w ≤ 64) (v x : Int) :
    setUintFromBigInt w v = some x ↔ (x = v ∧ inU w v) :=
  guard_iff (uint_from_uint_exact_iff w v x) fun h =>
    not_not_intro ⟨h.2.1, Int.lt_of_lt_of_le h.2.2 (two_pow_le w 64 hw)⟩

theorem int_from_bigint_exact_iff (w : Nat) (hw : 0 < w) (hw64 : w ≤ 64) (v x : Int) :
    setIntFromBigInt w v = some x ↔ (x = v ∧ inS w v) :=
  guard_iff (int_from_int_exact_iff w hw v x) fun h =>
    have hle : (2 : Int) ^ (w - 1) ≤ 2 ^ (64 - 1) := two_pow_le (w - 1) (64 - 1) (Nat.sub_le_sub_right hw64 1)
    not_not_intro ⟨Int.le_trans (Int.neg_le_neg hle) h.2.1, Int.lt_of_lt_of_le h.2.2 hle⟩

/-- boundary witnesses (non-vacuity): 127 fits int8, 128 does not; 2^63 as a uint64 source
    does not fit int64; -1 does not fit any unsigned width -/
example : setIntFromInt 8 127 = some 127 ∧ setIntFromInt 8 128 = none ∧
    setIntFromUint 64 (2 ^ 63) = none ∧ setUintFromInt 64 (-1) = none ∧
    setUintFromBigInt 64 (2 ^ 64 - 1) = some (2 ^ 64 - 1) := by decide

end CE.Props.C19

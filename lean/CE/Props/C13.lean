import CE.Rules.Masks
/-
  C13 — markers and local references are consistent in every accepted document.

  Full statement (target): Rules.accepts env evs → every reference names a marker of the
  document ∧ marker ids are pairwise distinct ∧ key references point to keyable objects ∧
  no marker on a marker/reference/record type ∧ identifiers valid.
  Proved here: the mechanisms, each at full strength for the function that implements it
  (`markObject`, `localReference`, `endDocument`, `validateIdentifier`, the marked-object
  rows of the rule table), and the first clause lifted to whole documents:
  `every_reference_of_an_accepted_document_has_its_marker` - for EVERY event stream, if the
  validator accepts all of it up to and including the end of the document, the identifier of every
  local-reference event is among the markers registered at the end (CE/Rules/Markers.lean: what the
  validator "covers" only grows under every statement, nested rule call and event; the end of the
  document is accepted only with nothing waiting).  `registered_markers_are_distinct` - in every state
  the validator reaches on any stream no marker identifier is registered twice;
  `pending_references_never_name_a_registered_marker` - no waiting (forward) reference names an
  identifier that is already registered, so what `endDocument` finds waiting is exactly the set of
  references whose marker never came; `known_identifiers_are_partitioned` - registered and waiting
  identifiers together contain no identifier twice (all three: the invariant `Partitioned` of
  CE/Rules/Markers.lean).  For the type masks of
  forward references the two mechanism halves are theorems (`forward_reference_mask_narrows`: a waiting id's
  mask only narrows, within every reference's own mask; `marking_checks_the_waiting_mask`: a waiting id is
  registered only with a type inside that mask).  The type masks over whole documents: `key_references_of_an_accepted_document_name_keyable_objects` and
  `references_of_an_accepted_document_fit_their_position` (CE/Rules/Masks.lean) - in every accepted document, a
  reference standing where the current rule records references with mask m (key positions: keyable, elsewhere: any)
  names a marker whose registered type is inside m, marker before or after.  Not proved: "no marker on a
  marker/reference/record type" over whole documents (the rule-table rows are proved, the lift is exercised by
  the WF.REL oracle against `Spec.globalOK` on every run).
-/
namespace CE.Props.C13
open CE CE.Rules

/-- no marker identifier is defined twice: marking an id that is already marked fails
    (unless the reference-count limit fails first) -/
theorem markObject_duplicate_rejected (cfg : Cfg) (s : RState) (dt : DT)
    (h : (lookupForward s.marked s.markerID).isSome) :
    ∃ e, markObject cfg s dt = .error e := by
  cases hr : markObject cfg s dt with
  | error e => exact ⟨e, rfl⟩
  | ok s' => rw [(markObject_ok.1 hr).2.1] at h; cases h

/-- the entry just put in front is the one found -/
theorem lookup_cons_self (l : List (Bytes × DT)) (id : Bytes) (dt : DT) :
    lookupForward ((id, dt) :: l) id = some dt := by
  rw [lookup_cons, beq_self_eq_true, if_pos rfl]

/-- a successful `markObject` records the id with its type and counts it -/
theorem markObject_records (cfg : Cfg) (s s' : RState) (dt : DT) (h : markObject cfg s dt = .ok s') :
    lookupForward s'.marked s.markerID = some dt ∧ s'.refCount = s.refCount + 1 ∧
    (lookupForward s.marked s.markerID) = none := by
  obtain ⟨-, hn, -, rfl⟩ := markObject_ok.1 h
  exact ⟨lookup_cons_self _ _ _, rfl, hn⟩

/-- a reference to an already marked object of a disallowed type is rejected at once
    (this is the "key reference points to a keyable object" check for backward references) -/
theorem backward_reference_type_checked (s : RState) (id : Bytes) (dt allowed : DT)
    (hm : lookupForward s.marked id = some dt) (hbad : dt &&& allowed = 0) :
    localReference s id allowed = .error .refType := by
  simp [localReference, hm, hbad]

/-- a reference to an unknown id is remembered as a forward reference -/
theorem forward_reference_recorded (s s' : RState) (id : Bytes) (allowed : DT)
    (hm : lookupForward s.marked id = none) (h : localReference s id allowed = .ok s') :
    (lookupForward s'.forward id).isSome := by
  rcases localReference_ok.1 h with ⟨_, hd, -⟩ | ⟨-, rfl⟩
  · rw [hm] at hd; cases hd
  · rw [lookup_cons_self]
    rfl

/-- each reference names a marker of the document: the document cannot end while a forward
    reference is unresolved (`endDocument` is the only way into the terminal rule) -/
theorem unresolved_reference_rejects_end (cfg : Cfg) (s : RState) (args : Args)
    (h : s.forward.length > 0) : execAct cfg .endDocument s args = .error .forwardUnresolved := by
  simp [execAct, h]

theorem terminal_only_via_endDocument :
    ∀ r ∈ Rule.all, ∀ m ∈ Method.all, (.changeRule .terminal) ∉ Model.ruleTable r m := by decide +kernel

/-- key-position references and markers use the keyable mask; every other position `any` -/
theorem key_position_masks :
    Model.ruleTable .mapKey .onReferenceLocal = [.localRefKeyable, .changeRule .mapValue] ∧
    Model.ruleTable .mapKey .onMarker = [.beginMarkerKeyable .keyable] ∧
    (∀ r ∈ Rule.all, r ≠ .mapKey → (.localRefKeyable) ∉ Model.ruleTable r .onReferenceLocal) := by decide +kernel

/-- the marked object is registered on every path out of a marked-object rule -/
theorem marked_object_always_registered :
    ∀ m ∈ Method.all,
      (Model.ruleTable .markedObjectKeyable m = [.wrongType] ∨
       (∃ src, (.markObject src) ∈ Model.ruleTable .markedObjectKeyable m) ∨
       Model.ruleTable .markedObjectKeyable m = [] ∨
       Model.ruleTable .markedObjectKeyable m = [.beginArrayKeyable]) := by
  -- with the four sources listed, the row is a finite table
  have row : ∀ m ∈ Method.all,
      (Model.ruleTable .markedObjectKeyable m = [.wrongType] ∨
       (∃ src ∈ [ObjSrc.objType, .arrayDataType, .cType, .null],
         (.markObject src) ∈ Model.ruleTable .markedObjectKeyable m) ∨
       Model.ruleTable .markedObjectKeyable m = [] ∨
       Model.ruleTable .markedObjectKeyable m = [.beginArrayKeyable]) := by decide +kernel
  intro m hm
  exact (row m hm).imp_right (Or.imp_left fun ⟨src, _, h⟩ => ⟨src, h⟩)

/-- identifiers: non-empty, within the configured length, made of valid characters -/
theorem identifier_checked (cfg : Cfg) (safe : Bytes → Bool) (id : Bytes) :
    validateIdentifier cfg safe id = .ok () ↔ (id.length ≠ 0 ∧ id.length ≤ cfg.maxIdLength ∧ safe id = true) :=
  validateIdentifier_ok

/-- in an accepted document every local reference names a registered marker -/
theorem every_reference_of_an_accepted_document_has_its_marker (env : Env) (htbl : env.tbl = Model.ruleTable)
    (evs : List Ev) (h : (run env RState.init (evs ++ [.endDoc]) 0).2.1 = none) :
    ∀ id, Ev.refLocal id ∈ evs → id ∈ ((run env RState.init (evs ++ [.endDoc]) 0).2.2.marked.map (·.1)) :=
  accepted_references_have_markers env htbl evs h

/-- the validator never registers one marker identifier twice, on any stream, accepted or not -/
theorem registered_markers_are_distinct (env : Env) (evs : List Ev) :
    ((run env RState.init evs 0).2.2.marked.map (·.1)).Nodup :=
  (List.nodup_append.1 (run_partitioned env evs RState.init 0 Partitioned.init)).1

/-- type mask of a waiting reference, recording half: a reference to an unregistered id leaves the id
    waiting with a mask that is within the mask of this reference AND within whatever mask it was
    waiting with before (0 = not waiting: the Go map's zero value) -/
theorem forward_reference_mask_narrows (s s' : RState) (id : Bytes) (allowed : DT)
    (hm : lookupForward s.marked id = none) (h : localReference s id allowed = .ok s') :
    ∃ nw, lookupForward s'.forward id = some nw ∧ nw &&& allowed = nw ∧
      ((lookupForward s.forward id).getD 0 = 0 → nw = allowed) ∧
      ((lookupForward s.forward id).getD 0 ≠ 0 → nw = (lookupForward s.forward id).getD 0 &&& allowed) := by
  rcases localReference_ok.1 h with ⟨_, hd, -⟩ | ⟨-, rfl⟩
  · rw [hm] at hd; cases hd
  exact ⟨if (lookupForward s.forward id).getD 0 = 0 then allowed else (lookupForward s.forward id).getD 0 &&& allowed,
    lookup_cons_self _ _ _, narrowed_and _ _, fun h0 => if_pos h0, fun h0 => if_neg h0⟩

/-- type mask of a waiting reference, checking half: a marker whose id is waiting is registered only
    if its type is within the mask the id was waiting with; and then the id waits no longer -/
theorem marking_checks_the_waiting_mask (cfg : Cfg) (s s' : RState) (dt m : DT)
    (hw : lookupForward s.forward s.markerID = some m) (h : markObject cfg s dt = .ok s') :
    m &&& dt ≠ 0 ∧ lookupForward s'.forward s.markerID = none := by
  obtain ⟨-, -, hchk, rfl⟩ := markObject_ok.1 h
  exact ⟨hchk m hw, by simp [lookup_filter]⟩

/-- non-vacuity of the two above: a forward reference in value position waits with a non-zero mask,
    and the marker that follows is registered against it -/
example :
    let env : Env := { tbl := Model.ruleTable, identSafe := fun _ => true }
    ((lookupForward (run env RState.init [.beginDoc, .version 0, .list, .refLocal [97]] 0).2.2.forward [97]).getD 0 ≠ 0) ∧
    (lookupForward (run env RState.init [.beginDoc, .version 0, .list, .refLocal [97], .marker [97], .posInt 1] 0).2.2.marked [97]).isSome = true := by
  decide +kernel

/-- the table of waiting references never names a registered marker, on any stream, accepted or not:
    a reference waits only while its marker has not come, and registering the marker removes it -/
theorem pending_references_never_name_a_registered_marker (env : Env) (evs : List Ev) (x : Bytes)
    (hx : x ∈ (run env RState.init evs 0).2.2.forward.map (·.1)) :
    lookupForward (run env RState.init evs 0).2.2.marked x = none :=
  lookup_eq_none.2 fun hm => (List.nodup_append.1 (run_partitioned env evs RState.init 0 Partitioned.init)).2.2 x hm x hx rfl

/-- the identifiers the validator knows are partitioned without repetition: registered markers are
    pairwise distinct, waiting references are pairwise distinct, and no identifier is in both - on any
    stream, accepted or not -/
theorem known_identifiers_are_partitioned (env : Env) (evs : List Ev) :
    let s := (run env RState.init evs 0).2.2
    (s.marked.map (·.1) ++ s.forward.map (·.1)).Nodup :=
  run_partitioned env evs RState.init 0 Partitioned.init

/-- non-vacuity of the above: after a forward reference the table is not empty, and it is empty again
    once the marker has come -/
example :
    let env : Env := { tbl := Model.ruleTable, identSafe := fun _ => true }
    (run env RState.init [.beginDoc, .version 0, .list, .refLocal [97]] 0).2.2.forward.map (·.1) = [[97]] ∧
    (run env RState.init [.beginDoc, .version 0, .list, .refLocal [97], .marker [97], .posInt 1] 0).2.2.forward = [] := by
  decide +kernel

/-- while a stream is being accepted, every waiting reference waits with one of the two masks the rules use -
    never with 0, which the code would read as "not waiting" and so forget the reference's constraint -/
theorem waiting_masks_are_any_or_keyable (env : Env) (evs : List Ev) (h : (run env RState.init evs 0).2.1 = none) :
    ∀ p ∈ (run env RState.init evs 0).2.2.forward, (p.2 = Mask.any.bits ∨ p.2 = Mask.keyable.bits) ∧ p.2 ≠ 0 :=
  fun p hp =>
    have hw := (run_t env evs RState.init 0 WInv.init).1 p hp
    ⟨hw, maskOK_ne hw⟩

/-- the type of every referenced object fits the position of the reference, in every accepted document -/
theorem references_of_an_accepted_document_fit_their_position (env : Env) (htbl : env.tbl = Model.ruleTable)
    (a b : List Ev) (id : Bytes) (m : DT)
    (h : (run env RState.init (a ++ (Ev.refLocal id :: (b ++ [Ev.endDoc]))) 0).2.1 = none)
    (hm : refMask (Model.ruleTable (run env RState.init a 0).2.2.cur.rule .onReferenceLocal) = some m) :
    ∃ dt, lookupForward (run env RState.init (a ++ (Ev.refLocal id :: (b ++ [Ev.endDoc]))) 0).2.2.marked id = some dt ∧
      dt &&& m ≠ 0 :=
  accepted_reference_types_fit env htbl a b id m h hm

/-- key references point to keyable objects: a reference accepted where the rule uses the keyable mask (map
    keys) names, when the accepted document ends, a marker registered with a keyable type -/
theorem key_references_of_an_accepted_document_name_keyable_objects (env : Env) (htbl : env.tbl = Model.ruleTable)
    (a b : List Ev) (id : Bytes)
    (h : (run env RState.init (a ++ (Ev.refLocal id :: (b ++ [Ev.endDoc]))) 0).2.1 = none)
    (hk : (Model.ruleTable (run env RState.init a 0).2.2.cur.rule .onReferenceLocal).head? = some .localRefKeyable) :
    ∃ dt, lookupForward (run env RState.init (a ++ (Ev.refLocal id :: (b ++ [Ev.endDoc]))) 0).2.2.marked id = some dt ∧
      dt &&& Mask.keyable.bits ≠ 0 := by
  refine accepted_reference_types_fit env htbl a b id _ h ?_
  generalize Model.ruleTable (run env RState.init a 0).2.2.cur.rule .onReferenceLocal = acts at hk
  cases acts with
  | nil => cases hk
  | cons a _ => cases hk; rfl

/-- non-vacuity of the two above: a map whose key is a forward reference to a marked string is accepted, and
    the key position does use the keyable mask; with the marker on a list instead it is rejected -/
example :
    let env : Env := { tbl := Model.ruleTable, identSafe := fun _ => true }
    let a : List Ev := [.beginDoc, .version 0, .list, .map]
    (run env RState.init (a ++ (Ev.refLocal [97] :: ([.posInt 1, .endContainer, .marker [97], .posInt 5, .endContainer] ++ [Ev.endDoc]))) 0).2.1 = none ∧
    (Model.ruleTable (run env RState.init a 0).2.2.cur.rule .onReferenceLocal).head? = some .localRefKeyable ∧
    (run env RState.init (a ++ (Ev.refLocal [97] :: ([.posInt 1, .endContainer, .marker [97], .list, .endContainer, .endContainer] ++ [Ev.endDoc]))) 0).2.1 ≠ none := by
  decide +kernel

/-- non-vacuity: a list with a forward reference and its marker is accepted -/
example :
    let env : Env := { tbl := Model.ruleTable, identSafe := fun _ => true }
    (run env RState.init ([.beginDoc, .version 0, .list, .refLocal [97], .marker [97], .posInt 1, .endContainer] ++ [.endDoc]) 0).2.1 = none := by
  decide +kernel

end CE.Props.C13

import CE.Cbe.CostProofs
import CE.Cbe.Progress
/-
  C08  Decoding cost is bounded by document size and configured limits.

  Proved (CBE reader and decoder models, for every document, every sequence of declared
  lengths - however large - and every way the io.Reader hands the bytes over):

  * `reader_buffer_paid_by_arrived_bytes`: the bytes ever allocated for the reader's buffer are
    at most 4 x the bytes that have ARRIVED, and the buffer is never longer than
    max(127, 2 x arrived); a declared length (array chunk, string, media type, identifier,
    big integer: all go through `readIntoBuffer`) contributes nothing by itself.
  * `one_read_cannot_reserve_more_than_arrives`: the same for a single read on a fresh reader
    (the shape of defect D05: 9 bytes announcing 4 GiB).
  * `old_reader_reserved_the_declared_length`: the code before fix 612489c, as a model,
    violates the bound (non-vacuity: the theorem distinguishes the two).
  * `main_loop_iterations_bounded`: the main decode loop of the CBE decoder model runs at most
    once per document byte (CE.Cbe.loopIterations_le), and every chunk header consumes a
    byte (CE.Cbe.readUleb_len; decodeChunks_len for a chunk sequence that is read): the number
    of decoder steps is linear in the document length.

  Observed, not proved (harness, TotalAlloc around a single decode): the allocation of the
  whole pipeline (events, rules, builders, and for CTE the ANTLR parse tree, which is built
  for the whole document before any rule runs) against K x len + MaxArraySizeBytes + C, and
  its growth when an adversarial family is scaled by 4.  Time is recorded but only a gross
  bound is enforced (wall-clock under load is not a fact about the code).
-/
namespace CE.Props.C08
open CE.Cbe.Cost

theorem reader_buffer_paid_by_arrived_bytes (declared : List Nat) (docLen : Nat) (sched : List Nat) :
    (readMany declared RS.init docLen sched).alloc ≤ 4 * docLen ∧
    (readMany declared RS.init docLen sched).len ≤ max startSize (2 * docLen) := by
  obtain ⟨hi, hc⟩ := readMany_inv declared RS.init docLen sched Inv.init
  have hd : (readMany declared RS.init docLen sched).consumed ≤ docLen :=
    Nat.le_trans hc (Nat.le_of_eq (Nat.zero_add docLen))
  -- both bounds of the invariant are monotone in the bytes consumed
  exact ⟨Nat.le_trans hi.alloc_le (Nat.mul_le_mul_left 4 hd),
    Nat.le_trans hi.b (Nat.max_le.2 ⟨Nat.le_max_left .., Nat.le_trans (Nat.mul_le_mul_left 2 hd) (Nat.le_max_right ..)⟩)⟩

theorem one_read_cannot_reserve_more_than_arrives (declared docLen : Nat) (sched : List Nat) :
    (readInto declared RS.init docLen sched).s.alloc ≤ 4 * docLen := by
  obtain ⟨hi, hc⟩ := readInto_inv declared RS.init docLen sched Inv.init
  have ha := hi.alloc_le
  have h0 : RS.init.consumed = 0 := rfl
  rw [h0] at hc
  omega

/-- the reader before fix 612489c: `expandBufferTo(count)` allocated `2 * count` up front -/
def oldReadAlloc (declared : Nat) (s : RS) : Nat :=
  if s.len < declared then s.alloc + 2 * declared else s.alloc

theorem old_reader_reserved_the_declared_length :
    ∃ declared docLen, ¬ (oldReadAlloc declared RS.init ≤ 4 * docLen) :=
  ⟨2 ^ 32, 9, by decide⟩

/-- the hypotheses are met by real runs: a 200-byte string arriving 7 bytes at a time makes the
    buffer double once, when 127 bytes have arrived -/
example : (readInto 200 RS.init 200 (List.replicate 40 7)).ok = true ∧
          (readInto 200 RS.init 200 (List.replicate 40 7)).s.len = 254 ∧
          (readInto 200 RS.init 200 (List.replicate 40 7)).s.alloc = 254 := by decide +kernel

/-- and a 9-byte document that announces 4 GiB stops at EOF with the start buffer untouched -/
example : (readInto (2 ^ 32) RS.init 4 []).ok = false ∧ (readInto (2 ^ 32) RS.init 4 []).s.alloc = 0 := by
  decide +kernel

theorem main_loop_iterations_bounded (doc : List UInt8) : CE.Cbe.loopIterations doc.length doc ≤ doc.length :=
  CE.Cbe.loopIterations_le _ _

end CE.Props.C08

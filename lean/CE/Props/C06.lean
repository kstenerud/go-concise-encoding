import CE.Tree
/-
  C06 — any valid document unmarshals into an untyped value.

  The data relation of the property is *defined* here (CE/Tree.lean) and evaluated on the
  implementation; the builder itself is not modelled, so the one theorem below is only
  a law of the float16 widening the comparison uses (Go has no 16-bit float type, so float16
  arrays come back as float32 arrays with the same values).  Everything else about C06 is
  decided by the oracle on the implementation; see DESIGN.md section 8.
-/
namespace CE.Props.C06
open CE

theorem widenF16Bytes_length : ∀ (n : Nat) (d : Bytes), d.length = 2 * n → (widenF16Bytes d).length = 4 * n := by
  intro n
  induction n with
  | zero => intro d h; cases List.eq_nil_of_length_eq_zero h; rfl
  | succ n ih =>
    intro d h
    rcases d with _ | ⟨a, _ | ⟨b, rest⟩⟩
    · cases h
    · cases h
    · have : rest.length = 2 * n := Nat.add_right_cancel (m := 2) (h.trans (Nat.mul_succ 2 n))
      rw [widenF16Bytes, List.length_cons, List.length_cons, List.length_cons, List.length_cons, ih rest this,
        Nat.mul_succ]

end CE.Props.C06

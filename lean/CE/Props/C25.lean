import CE.Cte.Digits
/-
  C25 — every CTE array-format setting produces readable CTE.

  `int_element_roundtrip`: for each of the 8 integer array kinds, each of the 7 format settings
  and EVERY element bit pattern of the kind's width, the decoder's reading of the text the
  encoder writes for the element is that bit pattern — decimal, binary, octal, hexadecimal, zero
  filled or not, negative values included (Go's zero padding counts the minus sign).
  `int_array_roundtrip` lifts it to whole arrays of any length.
  The theorem speaks of `fmtElem` (through `Fmt.base`, `padWidth`) and `parseElem`; CE/Gen/CheckCte.lean ties
  `header` and `verbText` to the tables extracted from /repo; that their letter and suffix go with `Fmt.base`
  is read off the definitions, not proved.
  Float kinds: decimal and hex-float element texts are external (strconv); they are decided by the
  exhaustive-over-settings oracle of `bin/check C25`, not by a theorem.
-/
namespace CE.Props.C25
open CE.Cte.ArrFmt

theorem base_ok (f : Fmt) : 2 ≤ f.base ∧ f.base ≤ 16 := by cases f <;> decide

theorem parseUintBase_fmt (f : Fmt) (w n : Nat) :
    parseUintBase (if f = .dec then 0 else f.base) (leftPad (if f = .dec then 0 else w) (natDigits f.base n)) = some n := by
  obtain ⟨h2, h16⟩ := base_ok f
  by_cases hd : f = .dec
  · subst hd
    rw [if_pos rfl, if_pos rfl]
    by_cases hn : n = 0
    · subst hn; decide   -- "0" is the `['0']` alternative of `parseUintBase`
    · -- positive decimal digits do not start with `0`, which in `parseUintBase 0` (strconv base 0) selects octal
      obtain ⟨c, cs, he, hc⟩ := natDigits_head 10 (by decide) (by decide) n (Nat.pos_of_ne_zero hn)
      rw [leftPad_zero, show Fmt.dec.base = 10 from rfl, he, parseUintBase_zero c cs hc, ← he]
      exact (numeral_natDigits 10 (by decide) (by decide) n).parseNat
  · rw [if_neg hd, if_neg hd, parseUintBase_pos _ (Nat.ne_of_gt (Nat.lt_of_lt_of_le Nat.zero_lt_two h2))]
    exact (numeral_leftPad_natDigits f.base h2 h16 w n).parseNat

theorem parseElem_signed_nosign (k : Kind) (hs : k.signed = true) (f : Fmt) (c : Char) (cs : List Char)
    (h1 : c ≠ '-') (h2 : c ≠ '+') :
    parseElem k f (c :: cs) =
      (parseUintBase (if f = .dec then 0 else f.base) (c :: cs)).bind fun m =>
        if m < 2 ^ (k.bits - 1) then some m else none := by
  unfold parseElem
  simp only [hs, if_true]
  -- the `'-'` and `'+'` alternatives contradict `h1`, `h2`
  split <;> simp_all

theorem parseElem_signed_minus (k : Kind) (hs : k.signed = true) (f : Fmt) (r : List Char) :
    parseElem k f ('-' :: r) =
      (parseUintBase (if f = .dec then 0 else f.base) r).bind fun m =>
        if m ≤ 2 ^ (k.bits - 1) then some ((2 ^ k.bits - m) % 2 ^ k.bits) else none := by
  unfold parseElem
  simp only [hs, if_true]

theorem parseElem_unsigned (k : Kind) (hs : k.signed = false) (f : Fmt) (s : List Char) :
    parseElem k f s =
      (parseUintBase (if f = .dec then 0 else f.base) s).bind fun m => if m < 2 ^ k.bits then some m else none := by
  unfold parseElem
  simp only [hs, Bool.false_eq_true, if_false]

theorem padWidth_dec (bits : Nat) : padWidth bits .dec = 0 := rfl

/-- two's complement in `P = 2 * H` patterns, for a pattern `e` in the negative half -/
theorem neg_pattern (P H e : Nat) (hP : P = 2 * H) (he : e < P) (hH : H ≤ e) :
    (e : Int) - (P : Int) < 0 ∧ ((e : Int) - (P : Int)).natAbs = P - e ∧ P - e ≤ H ∧ P - (P - e) = e := by
  refine ⟨Int.sub_neg_of_lt (Int.ofNat_lt.2 he), ?_, by omega, Nat.sub_sub_self (Nat.le_of_lt he)⟩
  rw [← Int.neg_sub, Int.natAbs_neg, ← Int.ofNat_sub (Nat.le_of_lt he), Int.natAbs_natCast]

/-- `hk` is not used: it says for which kinds the model is meant (float elements are written otherwise) -/
theorem int_element_roundtrip (k : Kind) (hk : k ∈ Kind.ints) (f : Fmt) (e : Nat) (he : e < 2 ^ k.bits) :
    parseElem k f (fmtElem k f e) = some e := by
  have hbits : 1 ≤ k.bits := by cases k <;> decide
  have hpow : 2 ^ k.bits = 2 * 2 ^ (k.bits - 1) := by rw [← Nat.pow_succ', Nat.succ_eq_add_one, Nat.sub_add_cancel hbits]
  obtain ⟨hb2, hb16⟩ := base_ok f
  -- the magnitude `n`, padded to the setting's width less `d`, is read back (decimal is never padded)
  have hp : ∀ d n, parseUintBase (if f = .dec then 0 else f.base)
      (leftPad (padWidth k.bits f - d) (natDigits f.base n)) = some n := by
    intro d n
    have := parseUintBase_fmt f (padWidth k.bits f - d) n
    by_cases hd : f = .dec
    · subst hd; simpa [padWidth_dec] using this
    · simpa [hd] using this
  unfold fmtElem fmtInt
  by_cases hneg : k.signed = true ∧ e ≥ 2 ^ (k.bits - 1)
  · -- negative value: "-" then the zero-padded magnitude, the sign counted in the width
    have hval : elemValue k e = (e : Int) - ((2 ^ k.bits : Nat) : Int) := by simp [elemValue, hneg]
    obtain ⟨hx, habs, hle, hback⟩ := neg_pattern _ _ e hpow he hneg.2
    rw [hval, if_pos hx, habs, parseElem_signed_minus k hneg.1, hp 1, Option.bind, if_pos hle, hback,
      Nat.mod_eq_of_lt he]
  · have hval : elemValue k e = (e : Int) := by simp only [elemValue, if_neg hneg]
    rw [hval, if_neg (Int.not_lt.2 (Int.natCast_nonneg e)), Int.natAbs_natCast]
    have hp0 := hp 0 e
    rw [Nat.sub_zero] at hp0
    cases hs : k.signed
    · rw [parseElem_unsigned k hs, hp0, Option.bind, if_pos he]
    · -- the text starts with a digit, so it is read without a sign
      have hd := numeral_leftPad_natDigits f.base hb2 hb16 (padWidth k.bits f) e
      obtain ⟨c, cs, hl⟩ := List.exists_cons_of_ne_nil hd.ne_nil
      obtain ⟨h1, h2, _⟩ := hd.plain hb16 c (by rw [hl]; simp)
      rw [hl] at hp0
      have hlt : e < 2 ^ (k.bits - 1) := Nat.lt_of_not_le fun h => hneg ⟨hs, h⟩
      rw [hl, parseElem_signed_nosign k hs f c cs h1 h2, hp0, Option.bind, if_pos hlt]

theorem int_array_roundtrip (k : Kind) (hk : k ∈ Kind.ints) (f : Fmt) (es : List Nat)
    (hes : ∀ e ∈ es, e < 2 ^ k.bits) :
    (es.map (fmtElem k f)).mapM (parseElem k f) = some es := by
  induction es with
  | nil => rfl
  | cons e es ih =>
    have h1 := int_element_roundtrip k hk f e (hes e (by simp))
    have h2 := ih (fun x hx => hes x (by simp [hx]))
    simp [List.mapM_cons, h1, h2]

theorem header_shape (k : Kind) (f : Fmt) :
    header k f = "@" ++ k.name ++ (if k.isFloat then (if f = .dec then "" else "x") else f.suffix) ++ "[" := rfl

/-- non-vacuity and spot checks against Go's fmt: -3 as int8 in zero-filled binary is "-0000011" -/
example : String.ofList (fmtElem .i8 .binz 253) = "-0000011" ∧ parseElem .i8 .binz "-0000011".toList = some 253 ∧
    String.ofList (fmtElem .u16 .hexz 255) = "00ff" ∧ String.ofList (fmtElem .i64 .octz 8) = "0000000000000000000010" ∧
    printArray .u8 .hex [1, 255] = "@u8x[1 ff]" := by decide +kernel

end CE.Props.C25

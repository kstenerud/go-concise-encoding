import CE.Cbe.Cut
import CE.Cbe.Prefix
import CE.Rules.Markers
import CE.Props.C10
/-
  C09 — truncated documents are rejected and partial results are prefixes.

  Full statement (target): for every valid document d and 0 < k < |d|,
    unmarshal (take k d) is an error and its partial value ⊑ the full value.

  A cut falls either inside a token or between two tokens.  Proved here, for all inputs:
  * `truncated_stream_rejected` — between tokens: the decoder has delivered a strict prefix p of
    the document's events and, at end of input, the synthetic end-of-document.  Whenever the
    full stream p ++ e :: rest was accepted and e is not itself the end-of-document, the
    validator rejects p ++ [endDoc] — at the endDoc, not before (so everything decoded so far
    was delivered).  Holds for every configuration, every stream, every cut.
  * `posInt_cut_rejected_partial` / `negInt_cut_rejected_partial` — inside a token: every strict prefix of an
    encoded integer (any width) makes the CBE token decoder fail with end-of-file, delivering
    no event.
  * `cut_inside_token_fails` — inside ANY token the encoder writes for the structural fragment
    (scalars of every kind, identifiers, strings, typed arrays) and
    `cut_inside_chunked_array_fails` — inside an array sent in chunks (header, chunk lengths or
    data): every non-empty strict prefix of the token's bytes fails with "input ended", having
    delivered a prefix of the token's events; it is never read as a shorter token.  Both follow
    from one general fact (`token_cut_fails`): a byte string that is read back as
    one token whatever follows it has no strict prefix that decodes - the decoder reads a prefix
    code (`fine_decodeOne`; `ext_decodeOne` is its reading in the terms of `Ext`).  Remote references are arrays of the fragment and are covered; times, bit arrays, media
    and custom data: CBE.DEC correspondence at random cuts and the oracle at every cut.
  * `cbe_truncation_delivers_a_prefix` — every cut of every byte string, inside a token or
    between tokens, every event kind the decoder model covers: the events the CBE decoder has
    delivered when the input ends after k bytes (not counting the end-of-document it adds when
    it stops between tokens) are a prefix of the events it delivers for the whole input.  The
    decoder reads a prefix code: a token that decodes keeps decoding to the same events when bytes
    are appended, an error other than "input ended" reappears unchanged, and at "input ended" what
    had been delivered (an array's begin and chunk events, say) is delivered again first.
  * `cbe_truncation_fails_only_with_end_of_input` — and the cut never produces another kind of
    error than "input ended" (an error of any other kind persists under every continuation).
  The value-level prefix order is decided by the oracle of `bin/check C09` on the
  implementation (the builders are not modelled).
-/
namespace CE.Props.C09
open CE CE.Rules CE.Rules.Model

theorem nno_rule (cfg : Cfg) (s s1 : RState) (b : Bool) (h : notifyNewObject cfg s b = .ok s1) :
    s1.cur.rule = s.cur.rule :=
  Rules.nno_rule cfg s s1 b h

theorem call_rejected (cfg : Cfg) (s : RState) (m : Method) (args : Args)
    (h : ruleTable s.cur.rule m = [.wrongType]) :
    call ruleTable cfg s m args = .error .wrongType :=
  call_wrongType h

/-- only the rule that follows the single top-level object accepts end-of-document -/
theorem endDoc_accepted_only_after_top_level (env : Env) (htbl : env.tbl = ruleTable)
    (s : RState) (r : RState × List Ev) (h : step env s .endDoc = .ok r) :
    s.cur.rule = .endDocument :=
  (step_endDoc_ok htbl h).1

theorem endDocument_rejects (m : Method) (hm : m ≠ .onEndDocument) :
    ruleTable .endDocument m = [.wrongType] := by
  have := (Props.C10.header_and_terminal).2.2.2.1 m (Props.C10.Method.all_complete m) hm
  simpa [Props.C10.rejects] using this

/-- after the top-level object nothing but end-of-document is accepted (no second object,
    no padding, no comment) -/
theorem after_top_level_only_endDoc (env : Env) (htbl : env.tbl = ruleTable)
    (s : RState) (e : Ev) (he : e ≠ .endDoc) (hr : s.cur.rule = .endDocument) :
    ∃ err, step env s e = .error err := by
  cases hst : step env s e with
  | error err => exact ⟨err, rfl⟩
  | ok r =>
    obtain ⟨s1, h1, h2, -⟩ := step_ok hst
    have hr1 : s1.cur.rule = .endDocument := (noted_rule h1).trans hr
    rw [htbl, call_rejected _ _ _ _ (hr1 ▸ endDocument_rejects _ (mt methodOf_endDoc.1 he))] at h2
    cases h2

theorem run_prefix (env : Env) :
    ∀ (p q : List Ev) (s : RState) (i : Nat),
      (run env s p i).2.1 = none →
      run env s (p ++ q) i =
        ((run env s p i).1 ++ (run env (run env s p i).2.2 q (i + p.length)).1,
         (run env (run env s p i).2.2 q (i + p.length)).2.1,
         (run env (run env s p i).2.2 q (i + p.length)).2.2) :=
  run_append env

theorem run_prefix_ok (env : Env) :
    ∀ (p q : List Ev) (s : RState) (i : Nat),
      (run env s (p ++ q) i).2.1 = none → (run env s p i).2.1 = none :=
  run_append_ok env

/-- **Truncation between tokens is always rejected, and only at the end.**  If the validator
    accepts every event of `p ++ e :: rest` and `e` is not the end-of-document, then the
    truncated stream `p` followed by the decoder's end-of-document is rejected exactly at that
    final event: everything in `p` was accepted (and delivered), the synthetic end is not. -/
theorem truncated_stream_rejected (env : Env) (htbl : env.tbl = ruleTable)
    (p : List Ev) (e : Ev) (rest : List Ev) (he : e ≠ .endDoc)
    (hacc : (run env RState.init (p ++ e :: rest) 0).2.1 = none) :
    ∃ err, (run env RState.init (p ++ [.endDoc]) 0).2.1 = some (p.length, err) := by
  obtain ⟨_, hr, -⟩ := run_ok hacc
  obtain ⟨sp, hp, hr⟩ := Runs.cut hr
  -- the event after the cut was accepted in state sp, so sp is not the rule that accepts end-of-document
  cases hr with | cons hstep _ =>
  have hne : sp.cur.rule ≠ .endDocument := fun hr => by
    obtain ⟨err, herr⟩ := after_top_level_only_endDoc env htbl sp e he hr
    rw [herr] at hstep; cases hstep
  rw [hp.run_append]
  simp only [run]
  cases hs : step env sp .endDoc with
  | error err => exact ⟨err, by simp⟩
  | ok r => exact absurd (endDoc_accepted_only_after_top_level env htbl sp r hs) hne

/-- non-vacuity: a concrete accepted document and a cut inside it -/
example :
    let env : Env := { tbl := ruleTable, identSafe := fun _ => true }
    (run env RState.init ([.beginDoc, .version 0, .list, .posInt 1] ++ .endContainer :: [.endDoc]) 0).2.1 = none ∧
    (run env RState.init ([.beginDoc, .version 0, .list, .posInt 1] ++ [.endDoc]) 0).2.1 = some (4, .wrongType) := by
  decide +kernel

/-! ### cuts inside a CBE token -/
open CE.Cbe

theorem takeN_short (k : Nat) (d : Bytes) (h : d.length < k) : takeN k d = .error .eof :=
  Cbe.takeN_short k d h

theorem fix_cut (neg : Bool) (w : Nat) (d : Bytes) (h : d.length < w) :
    decodeTok (if neg then .negFix w else .posFix w) d = .error (.eof, []) :=
  Cbe.fix_cut neg w d h

/-- `L ≤ 8` is what the 64-bit integers supply; `L < 128` (one length byte) is what is used -/
theorem var_cut (neg : Bool) (L : Nat) (hL : L ≤ 8) (d : Bytes) (hd : d.length = L) (j : Nat)
    (hj : j < 1 + L) :
    decodeTok (if neg then .negVar else .posVar) ((u8 L :: d).take j) = .error (.eof, []) :=
  Cbe.var_cut neg L (by omega) d hd j hj

/-- every strict prefix of an encoded non-negative integer (any width) fails with end-of-file
    and delivers nothing -/
theorem posInt_cut_rejected_partial (n : Nat) (h : n < 2 ^ 64) (k : Nat)
    (hk : k < (encPosInt n).length) :
    decodeOne ((encPosInt n).take k) = .error (.eof, []) :=
  (encPosInt_form n h).cut k hk

/-- the same for negative integers (magnitude form, any width, including negative zero) -/
theorem negInt_cut_rejected_partial (n : Nat) (h : n < 2 ^ 64) (k : Nat)
    (hk : k < (encNegInt n).length) :
    decodeOne ((encNegInt n).take k) = .error (.eof, []) :=
  (encNegInt_form n h).cut k hk

/-- non-vacuity: a 3-byte and a 9-byte encoding have cuts -/
example : (encPosInt 65535).length = 3 ∧ (encNegInt (2 ^ 63)).length = 9 := by decide

/-- whatever the CBE decoder has delivered when a document is cut after k bytes is a prefix of what it
    delivers for the whole document: for every byte string and every k -/
theorem cbe_truncation_delivers_a_prefix (doc : Bytes) (k : Nat) :
    CE.Cbe.delivered (CE.Cbe.decode (doc.take k)) <+: (CE.Cbe.decode doc).1 :=
  CE.Cbe.truncation_delivers_a_prefix doc k

/-- a cut never manufactures a different failure: a document that decodes without error, cut anywhere,
    stops cleanly between two tokens or fails with "input ended" -/
theorem cbe_truncation_fails_only_with_end_of_input (doc : Bytes) (k : Nat) (h : (CE.Cbe.decode doc).2 = none) :
    (CE.Cbe.decode (doc.take k)).2 = none ∨ (CE.Cbe.decode (doc.take k)).2 = some .eof :=
  CE.Cbe.truncation_error_is_eof doc k h

/-- non-vacuity: a list holding a 3-byte string cut inside the string data has delivered the document
    head, the list and the string's begin and chunk events -/
example : CE.Cbe.delivered (CE.Cbe.decode (([0x81, 0, 0x9a, 0x90, 0x06, 0x61, 0x62, 0x63, 0x9b] : Bytes).take 7))
    = [.beginDoc, .version 0, .list, .arrayBegin .string, .arrayChunk 3 false] := by decide +kernel

/-- a cut inside the encoding of any structural event fails with "input ended" -/
theorem cut_inside_token_fails (st : Cbe.EncSt) (e : Ev) (hs : Cbe.simple e = true) (bs : Bytes)
    (henc : Cbe.encodeEv st e = .ok (st, bs)) (hc : ∀ m s, e ≠ .comment m s)
    (p : Bytes) (hp : p <+: bs) (hne : p ≠ []) (hlt : p.length < bs.length) :
    ∃ part, Cbe.decodeOne p = .error (.eof, part) ∧ part <+: Cbe.renorm e :=
  Cbe.simple_token_cut_fails st e hs bs henc hc p hp hne hlt

/-- a cut inside an array sent in chunks fails with "input ended" -/
theorem cut_inside_chunked_array_fails (t : ArrT) (hf : Cbe.frag t = true) (hd : Bytes) (hah : Cbe.arrayHeader t = .ok hd)
    (cs : List Cbe.Chunk) (last : Cbe.Chunk) (hcs : ∀ c ∈ cs, Cbe.chunkOK (t.elemBits / 8) c)
    (hl : Cbe.chunkOK (t.elemBits / 8) last) (p : Bytes) (hp : p <+: Cbe.groupBytes t hd cs last) (hne : p ≠ [])
    (hlt : p.length < (Cbe.groupBytes t hd cs last).length) :
    ∃ part, Cbe.decodeOne p = .error (.eof, part) ∧ part <+: Cbe.groupBack t cs last :=
  Cbe.group_cut_fails t hf hd hah cs last hcs hl p hp hne hlt

/-- non-vacuity: the two-byte prefix of the three-byte encoding of 1000 -/
example : Cbe.simple (.posInt 1000) = true ∧ (Cbe.encodeFrom {} [.posInt 1000]).1 = [0x6a, 0xe8, 0x03] := by
  refine ⟨by decide, by decide⟩

end CE.Props.C09

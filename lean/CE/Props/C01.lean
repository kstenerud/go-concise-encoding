import CE.Cbe.Items
/-
  C01 — CBE encode/decode preserves every rules-valid event stream.

  Full statement (the target; proved for the fragments listed below):
    ∀ evs, Rules.accepts cfg evs → NoCustomText evs →
      ∃ back, Cbe.decode (Cbe.encode evs).1 = (back, none) ∧ canon false back = canon false evs

  Proved:
  * `structural_document_roundtrip` — the full statement for the structural fragment of the
    alphabet (containers, Booleans, null, padding, comments, integers of every width and sign in
    all three event forms, big integers of up to 8192 bits, binary floats (every bit pattern:
    infinities, both NaN kinds, both zeros, values stored in 16, 32 or 64 bits - except the doubles
    that are float32 subnormals), decimal floats (every special value; any int32 exponent and int64
    coefficient short of the two extreme values) and big decimals (any coefficient size), identifiers of markers / references / records / record types, UIDs,
    strings and resource identifiers of any length up to 2^61, in short and chunk-header form,
    typed arrays of every byte-multiple element kind (u8 .. u64, i8 .. i64, f16 .. f64, uid)
    sent whole, in short and chunk-header form):
    for EVERY stream of such events, of any length and nesting, the encoder fails nowhere, the
    decoder reads the encoder's bytes back without error and to the end, and what it delivers
    carries the same data (`canon`) — nothing lost, nothing added.  By induction over the stream, each step a
    prefix-code lemma "one decoder step reads back exactly this event and leaves the rest of the input untouched".
  * `chunked_document_roundtrip` — the same for documents that also contain arrays SENT IN CHUNKS
    (`arrayBegin`, any number of `arrayChunk n more`, the data of each chunk in any number of
    `arrayData` pieces; strings, resource ids, remote references and every byte-multiple typed array), media objects and
    custom binary data (begin event with the media type / type number, then chunks; or their one-event
    forms, and the one-event form of a remote reference): this is the part of
    the encoder with state (the first chunk decides between the short header and header + chunk
    length) and of the decoder that loops over chunk headers.
  * the per-event prefix-code round trips for integers, with arbitrary following bytes
    (`…_partial` below).
  Not proved: doubles in the float32 subnormal range, times and bit arrays are carried by the CBE.ENC / CBE.DEC
  correspondence and the round-trip oracle of `bin/check C01` only.
-/
namespace CE.Props.C01
open CE CE.Cbe

/-- ULEB128 (every length/count/version field) round-trips with any suffix. -/
theorem uleb_roundtrip (n : Nat) (h : n < 2 ^ 64) (rest : Bytes) :
    unuleb (uleb n ++ rest) = .ok (n, ulebLen n, rest) := unuleb_uleb n h rest

/-- positive integers, every width: encoder output followed by anything decodes to one
    event carrying the same integer, and leaves exactly the suffix. -/
theorem posInt_roundtrip_partial (st : EncSt) (n : Nat) (h : n < 2 ^ 64) (rest : Bytes) :
    ∃ st' bs, encodeEv st (.posInt n) = .ok (st', bs) ∧
      decodeOne (bs ++ rest) = .ok ([renormPos n], rest) ∧
      canon false [renormPos n] = canon false [.posInt n] :=
  ⟨st, encPosInt n, rfl, reads_encPosInt n h rest, canon_renormPos n⟩

/-- negative integers (magnitude form), every width, including negative zero. -/
theorem negInt_roundtrip_partial (st : EncSt) (n : Nat) (h : n < 2 ^ 64) (rest : Bytes) :
    ∃ st' bs, encodeEv st (.negInt n) = .ok (st', bs) ∧
      decodeOne (bs ++ rest) = .ok ([renormNeg n], rest) ∧
      canon false [renormNeg n] = canon false [.negInt n] :=
  ⟨st, encNegInt n, rfl, reads_encNegInt n h rest, canon_renormNeg n⟩

/-- every stream of structural events round-trips through CBE: no error, same data -/
theorem structural_document_roundtrip (evs : List Ev) (h : evs.all simple = true) :
    let doc := Ev.beginDoc :: Ev.version 0 :: (evs ++ [Ev.endDoc])
    (encode doc).2 = none ∧
    ∃ back, decode (encode doc).1 = (back, none) ∧ canon false back = canon false doc :=
  document_roundtrip evs h

/-- no two structural documents with different data share an encoding: the bytes determine the data -/
theorem structural_encoding_determines_data (a b : List Ev) (ha : a.all simple = true) (hb : b.all simple = true)
    (h : (encode (Ev.beginDoc :: Ev.version 0 :: (a ++ [Ev.endDoc]))).1 =
         (encode (Ev.beginDoc :: Ev.version 0 :: (b ++ [Ev.endDoc]))).1) :
    canon false (Ev.beginDoc :: Ev.version 0 :: (a ++ [Ev.endDoc])) =
    canon false (Ev.beginDoc :: Ev.version 0 :: (b ++ [Ev.endDoc])) := by
  obtain ⟨_, ba, hda, hca⟩ := document_roundtrip a ha
  obtain ⟨_, bb, hdb, hcb⟩ := document_roundtrip b hb
  rw [h] at hda
  rw [hda] at hdb
  have : ba = bb := by injection hdb
  rw [← hca, ← hcb, this]

/-- every document of structural events and arrays sent in chunks round-trips through CBE -/
theorem chunked_document_roundtrip (items : List Item) (h : ∀ i ∈ items, i.ok) :
    let doc := Ev.beginDoc :: Ev.version 0 :: (items.flatMap Item.events ++ [Ev.endDoc])
    (encode doc).2 = none ∧
    ∃ back, decode (encode doc).1 = (back, none) ∧ canon false back = canon false doc :=
  items_document_roundtrip items h

/-- non-vacuity: a string sent as three chunks (the second empty, the third in two pieces) inside a
    list, followed by a u16 array sent as one chunk of 20 elements, a media object in two chunks and custom
    binary data with one empty chunk -/
example : ∀ i ∈ [Item.ev .list,
      Item.arr .string [⟨2, [[104, 105]]⟩, ⟨0, []⟩] ⟨3, [[97], [98, 99]]⟩,
      Item.arr .u16 [] ⟨20, [List.replicate 40 7]⟩,
      Item.media [97, 47, 98] [⟨1, [[1]]⟩] ⟨2, [[2, 3]]⟩,
      Item.custom 77 [] ⟨0, []⟩,
      Item.ev .endContainer], i.ok := by
  intro i hi
  simp only [List.mem_cons, List.mem_nil_iff, or_false] at hi
  rcases hi with rfl | rfl | rfl | rfl | rfl | rfl
  · rfl
  · refine ⟨rfl, ?_, by decide, by decide⟩
    intro c hc
    simp only [List.mem_cons, List.mem_nil_iff, or_false] at hc
    rcases hc with rfl | rfl <;> exact ⟨by decide, by decide⟩
  · exact ⟨rfl, by simp, by decide, by decide⟩
  · refine ⟨by decide, ?_, by decide, by decide⟩
    intro c hc
    simp only [List.mem_cons, List.mem_nil_iff, or_false] at hc
    subst hc; exact ⟨by decide, by decide⟩
  · exact ⟨by decide, by simp, by decide, by decide⟩
  · rfl

/-- non-vacuity: a nested document with a marker, a reference, a record, integers of several
    widths and signs, a comment and padding satisfies the hypothesis -/
example : ([Ev.map, .marker [97], .list, .int (-5), .stringlike .string [104, 105], .stringlike .rid (List.replicate 40 120), .float 0x3ff8000000000000, .float 0x7ff0000000000000, .float 0x400921fb54442d18, .dfloat (.val (-2) 314), .dfloat .snan, .bigDecimal (some (.val true (10 ^ 30) 7)), .array .u16 2 [1, 0, 2, 0], .array .f64 2 (List.replicate 16 0),
            .posInt 70000, .negInt 0, .endContainer, .true_, .refLocal [97],
            .comment false [120], .padding, .posInt (2 ^ 64 - 1), .record [114, 49], .null, .endContainer,
            .endContainer] : List Ev).all simple = true := by decide

/-- a 200-bit negative integer is in the fragment too -/
example : simple (.bigInt (some (-(2 ^ 200)))) = true := by
  unfold simple
  simp only [decide_eq_true_eq]
  have : (-(2 : Int) ^ 200).natAbs = 2 ^ 200 := by simp [Int.natAbs_neg, Int.natAbs_pow]
  rw [this]
  exact Nat.pow_lt_pow_right (by decide) (by decide)

/-- non-vacuity: the hypotheses are met by boundary values -/
example : (281474976710656 : Nat) < 2 ^ 64 ∧ renormPos 100 = .int 100 ∧ renormPos 101 = .posInt 101 := by
  decide

end CE.Props.C01

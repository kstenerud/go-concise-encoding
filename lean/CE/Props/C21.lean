import CE.Marshal.Struct
/-
  C21 — struct fields follow their tags and the naming configuration.

  Model: CE/Marshal/Struct.lean (tag decoding, omission, ordering, name styles, key lookup), run
  against the real iterator and builder on every case (STRUCT.EMIT / STRUCT.LOOKUP).  Theorems
  about the model, for every field list, tag set and configuration:
  * `emitted_in_tag_order` — the emitted fields are sorted by their order tag;
  * `declaration_order_among_equal_orders` — fields with equal order keep their declaration
    order (stability), for every order value;
  * `each_kept_field_once` — the emitted fields are exactly the fields that are not tagged omit
    and that the omit rule keeps, each once (a permutation of them);
  * `identifier_ignores_separators`, `identifier_idempotent` — the matching key is not changed by
    underscores and spaces anywhere in a name, nor by being taken twice.
-/
namespace CE.Props.C21
open CE.Marshal.Struct

def Sorted : List Field → Prop
  | [] => True
  | x :: xs => (∀ y ∈ xs, orderKey x ≤ orderKey y) ∧ Sorted xs

def lowerLetters : List Char := "abcdefghijklmnopqrstuvwxyz".toList

theorem insertBy_perm (x : Field) : ∀ l : List Field, (insertBy x l).Perm (x :: l) := by
  intro l
  fun_induction insertBy x l
  case case1 | case2 => exact .refl _
  case case3 y ys _ ih => exact (ih.cons y).trans (.swap x y ys)

theorem sortStable_perm : ∀ l : List Field, (sortStable l).Perm l := by
  intro l
  induction l with
  | nil => exact List.Perm.refl _
  | cons x xs ih => exact (insertBy_perm x _).trans (List.Perm.cons x ih)

theorem insertBy_mem (x z : Field) (l : List Field) : z ∈ insertBy x l → z = x ∨ z ∈ l :=
  fun h => List.mem_cons.mp ((insertBy_perm x l).mem_iff.mp h)

theorem insertBy_sorted (x : Field) : ∀ l : List Field, Sorted l → Sorted (insertBy x l) := by
  intro l
  fun_induction insertBy x l <;> intro hs
  case case1 => exact ⟨by simp, trivial⟩
  case case2 y ys hle =>
    exact ⟨fun z hz => (List.mem_cons.mp hz).elim (· ▸ hle) fun hz' => Int.le_trans hle (hs.1 z hz'), hs⟩
  case case3 y ys hnle ih =>
    exact ⟨fun z hz => (insertBy_mem x z ys hz).elim (fun e => by rw [e]; omega) (hs.1 z), ih hs.2⟩

theorem emitted_in_tag_order : ∀ l : List Field, Sorted (sortStable l) := by
  intro l
  induction l with
  | nil => trivial
  | cons x xs ih => exact insertBy_sorted x _ ih

theorem insertBy_filter (x : Field) (k : Int) : ∀ l : List Field,
    (insertBy x l).filter (fun f => orderKey f == k) =
      if orderKey x == k then x :: l.filter (fun f => orderKey f == k) else l.filter (fun f => orderKey f == k) := by
  intro l
  fun_induction insertBy x l
  case case1 | case2 => exact List.filter_cons
  case case3 y ys hnle ih =>
    -- `y` is strictly smaller than `x`, so at most one of the two has order `k`
    rw [List.filter_cons, ih, List.filter_cons]
    by_cases hx : orderKey x = k
    · have hy : ¬ orderKey y = k := by omega
      simp only [beq_iff_eq, hx, hy, if_true, if_false]
    · simp only [beq_iff_eq, hx, if_false]

theorem declaration_order_among_equal_orders (k : Int) : ∀ l : List Field,
    (sortStable l).filter (fun f => orderKey f == k) = l.filter (fun f => orderKey f == k) := by
  intro l
  induction l with
  | nil => rfl
  | cons x xs ih =>
    simp only [sortStable, insertBy_filter, ih, List.filter_cons]

theorem each_kept_field_once (dflt : Omit) (fields : List Field) :
    ((sortStable (fields.filter fun f => f.tags.omitB ≠ .always)).filter (keep dflt)).Perm
      ((fields.filter fun f => f.tags.omitB ≠ .always).filter (keep dflt)) :=
  (sortStable_perm _).filter _

theorem emitted_length (style : Style) (dflt : Omit) (fields : List Field) :
    (emitted style dflt fields).length =
      ((fields.filter fun f => f.tags.omitB ≠ .always).filter (keep dflt)).length := by
  unfold emitted
  rw [List.length_map]
  exact (each_kept_field_once dflt fields).length_eq

/-- the literal spelled out, so that a membership test does not decode the string again -/
theorem lowerLetters_eq : lowerLetters =
    ['a', 'b', 'c', 'd', 'e', 'f', 'g', 'h', 'i', 'j', 'k', 'l', 'm', 'n', 'o', 'p', 'q', 'r', 's', 't', 'u', 'v',
     'w', 'x', 'y', 'z'] := by decide +kernel

/-- `toLowerAscii` evaluated on each of the 26 letters -/
theorem lower_fixed : ∀ c ∈ lowerLetters, toLowerAscii c = c := by
  rw [lowerLetters_eq]; decide +kernel

theorem lower_range (c : Char) : toLowerAscii c = c ∨ toLowerAscii c ∈ lowerLetters := by
  rw [lowerLetters_eq]
  fun_cases toLowerAscii c
  -- the last case is the default `c`, the 26 before it are the letters
  case case27 => exact .inl rfl
  all_goals exact .inr (by decide +kernel)

theorem toLowerAscii_idem (c : Char) : toLowerAscii (toLowerAscii c) = toLowerAscii c := by
  rcases lower_range c with h | h
  · rw [h, h]
  · exact lower_fixed _ h

theorem identifier_idempotent (s : List Char) : identifier (identifier s) = identifier s := by
  unfold identifier
  induction s with
  | nil => rfl
  | cons c cs ih =>
    simp only [List.map_cons, List.filter_cons]
    split
    · -- a character that passed the filter is lower-cased already, so it is kept unchanged again
      simp only [List.map_cons, List.filter_cons, toLowerAscii_idem]
      rename_i h
      simp [h, ih]
    · exact ih

theorem identifier_append (a b : List Char) : identifier (a ++ b) = identifier a ++ identifier b := by
  simp only [identifier, List.map_append, List.filter_append]

theorem identifier_ignores_separators (a b : List Char) (sep : Char) (h : sep = '_' ∨ sep = ' ') :
    identifier (a ++ sep :: b) = identifier (a ++ b) := by
  rw [identifier_append, identifier_append]
  -- `identifier (sep :: b)` computes to `identifier b`
  rcases h with rfl | rfl <;> rfl

/-- non-vacuity and spot checks against Go: acronyms, digits, tags -/
example :
    String.ofList (camelToSnake "HTTPServer2".toList) = "http_server2" ∧
    String.ofList (camelToSnake "MyURLAndID".toList) = "my_url_and_id" ∧
    String.ofList (camelToSnake "ABCd".toList) = "ab_cd" ∧ String.ofList (camelToSnake "X1y".toList) = "x1y" ∧
    String.ofList (identifier "Foo_Bar baz".toList) = "foobarbaz" ∧
    (decodeTags "F".toList " order=5 , name= Other_Name  , omit_zero".toList).map (fun t => (String.ofList t.name, t.order)) = some ("Other_Name", some 5) ∧
    decodeTags "F".toList "bogus".toList = none := by decide +kernel

end CE.Props.C21

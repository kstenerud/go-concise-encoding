import CE.Rules.Runs
/-
  What one statement does to the part of the state that whole-run invariants speak of (marker tables,
  counters, depth, the key lists of the open containers), and the one induction that carries any relation
  respected by those effects from single statements to statement lists, events and whole runs.
-/
namespace CE.Rules

/-- the two marker tables and the object counter are the same (the marker counter `refCount` is not part of it) -/
def SameRefs (s s' : RState) : Prop := s'.marked = s.marked ∧ s'.forward = s.forward ∧ s'.objectCount = s.objectCount

/-- the two masks a local reference is ever recorded with -/
def MaskOK (m : DT) : Prop := m = Mask.any.bits ∨ m = Mask.keyable.bits

inductive Effect (cfg : Cfg) (s s' : RState) : Prop
  /-- tables, counters, depth, the current key list and the stack stay; nothing else is constrained (the
      current rule, the entry's counts, the array / chunk / text scratch, the record types and the identifier
      of the marker being defined may change) -/
  | quiet (hr : SameRefs s s') (hc : s'.refCount = s.refCount) (hd : s'.depth = s.depth)
      (hk : s'.cur.keys = s.cur.keys) (hs : s'.stack = s.stack)
  | mark (dt : DT) (h : markObject cfg s dt = .ok s')
  | ref (id : Bytes) (m : DT) (hm : MaskOK m) (h : localReference s id m = .ok s')
  | key (k : NormKey) (h : notifyKey s k = .ok s')
  /-- a fresh entry on top of the old one: a marked object or an array begins (depth unchanged), or a
      container (depth + 1, within the limit) -/
  | push (hr : SameRefs s s') (hc : s'.refCount = s.refCount)
      (hd : s'.depth = s.depth ∨ s'.depth = s.depth + 1 ∧ s'.depth ≤ cfg.maxContainerDepth)
      (hk : s'.cur.keys = []) (hs : s'.stack = s.cur :: s.stack)
  /-- the entry below is current again: `unstack` or the end of an array (depth unchanged), or the end of a
      container (depth - 1) -/
  | pop (hr : SameRefs s s') (hc : s'.refCount = s.refCount)
      (hd : s'.depth = s.depth ∨ s'.depth + 1 = s.depth) (hs : s.stack = s'.cur :: s'.stack)

/-- only two effects touch the marker tables: registering a marker and recording a reference -/
theorem Effect.kinds {cfg : Cfg} {s s' : RState} (h : Effect cfg s s') :
    SameRefs s s' ∨ (∃ dt, markObject cfg s dt = .ok s') ∨ (∃ id m, MaskOK m ∧ localReference s id m = .ok s') := by
  cases h with
  | quiet hr | push hr | pop hr => exact .inl hr
  | mark dt h => exact .inr (.inl ⟨dt, h⟩)
  | ref id m hm h => exact .inr (.inr ⟨id, m, hm, h⟩)
  | key k h => obtain ⟨-, rfl⟩ := notifyKey_ok.1 h; exact .inl ⟨rfl, rfl, rfl⟩

theorem Effect.same {cfg : Cfg} (s : RState) : Effect cfg s s := .quiet ⟨rfl, rfl, rfl⟩ rfl rfl rfl rfl

theorem Effect.unstack {cfg : Cfg} {s s' : RState} (h : unstackRule s = .ok s') : Effect cfg s s' := by
  obtain ⟨e, rest, hs, rfl⟩ := unstackRule_ok.1 h
  exact .pop ⟨rfl, rfl, rfl⟩ rfl (.inl rfl) hs

theorem Effect.leaveArray {cfg : Cfg} {s : RState} {args : Args} {b : Bool} {st : Step}
    (h : leaveArray s args b = .ok st) : Effect cfg s st.state := by
  simp only [CE.Rules.leaveArray, bind_ok, pure_ok] at h
  obtain ⟨v, hv, rfl⟩ := h
  exact .unstack hv

/-- the shape of most statements that change the state: one operation, then the next statement -/
theorem next_ok {x : M RState} {args : Args} {st : Step} (h : (do pure (Step.next (← x) args)) = .ok st) :
    x = .ok st.state := by
  obtain ⟨v, hv, hp⟩ := bind_ok.1 h
  rw [pure_ok.1 hp]
  exact hv

theorem Effect.beginContainer {cfg : Cfg} {s s' : RState} {r : Rule} {dt : DT} {e : Option Nat}
    (h : beginContainer cfg s r dt e = .ok s') : Effect cfg s s' := by
  obtain ⟨hd, rfl⟩ := beginContainer_ok.1 h
  exact .push ⟨rfl, rfl, rfl⟩ rfl (.inr ⟨rfl, hd⟩) rfl rfl

theorem Effect.beginArrayAny {cfg : Cfg} {s s' : RState} {t : ArrT} (h : beginArrayAny cfg s t = .ok s') :
    Effect cfg s s' := by
  obtain ⟨_, _, _, rfl⟩ := beginArrayAny_ok h
  exact .push ⟨rfl, rfl, rfl⟩ rfl (.inl rfl) rfl rfl

theorem execAct_effect {cfg : Cfg} {a : Act} {s : RState} {args : Args} {st : Step}
    (h : execAct cfg a s args = .ok st) : Effect cfg s st.state := by
  cases a with
  | wrongType | unknown => cases h
  | markObject src => exact .mark _ (next_ok h)
  | localRefKeyable => exact .ref _ _ (.inr rfl) (next_ok h)
  | localRefAny => exact .ref _ _ (.inl rfl) (next_ok h)
  | unstack => exact .unstack (next_ok h)
  | beginList | beginMap | beginEdge | beginNode => exact .beginContainer (next_ok h)
  | beginArrayAny => exact .beginArrayAny (next_ok h)
  | beginRecordType =>
    obtain ⟨-, h⟩ := ite_error_ok.1 h
    obtain ⟨-, h⟩ := ite_error_ok.1 h
    obtain ⟨s1, h1, h⟩ := bind_ok.1 h
    obtain ⟨hd, rfl⟩ := beginContainer_ok.1 h1
    cases h
    exact .push ⟨rfl, rfl, rfl⟩ rfl (.inr ⟨rfl, hd⟩) rfl rfl
  | beginRecord =>
    simp only [execAct, actBeginRecord] at h
    split at h
    · cases h
    · exact .beginContainer (next_ok h)
  | beginMarkerKeyable m | beginMarkerAny m =>
    cases h
    exact .push ⟨rfl, rfl, rfl⟩ rfl (.inl rfl) rfl rfl
  | beginArrayKeyable =>
    obtain ⟨_, -, h⟩ := bind_ok.1 h
    exact .beginArrayAny (next_ok h)
  | notifyKey | notifyKeyOfArray =>
    simp only [execAct, actNotifyKey, actNotifyKeyOfArray] at h
    split at h
    · exact .key _ (next_ok h)
    · cases h; exact .same _
  | notifyKeyOfBuilt =>
    rcases ite_ok.1 h with ⟨-, h⟩ | ⟨-, h⟩
    · exact .key _ (next_ok h)
    · rcases ite_ok.1 h with ⟨-, h⟩ | ⟨-, h⟩
      · exact .key _ (next_ok h)
      · cases h; exact .same _
  | endContainer notify =>
    obtain ⟨hd, _, hv⟩ := actEndContainer_ok (cfg := cfg) h
    obtain ⟨e, rest, hs, hv⟩ := unstackRule_ok.1 hv
    rw [hv]
    exact .pop ⟨rfl, rfl, rfl⟩ rfl (.inr (Nat.sub_add_cancel (Nat.pos_of_ne_zero hd))) hs
  | zeroChunkReturn =>
    rcases ite_ok.1 h with ⟨-, h⟩ | ⟨-, h⟩
    · rcases ite_ok.1 h with ⟨-, h⟩ | ⟨-, h⟩
      · cases h; exact .same _
      · exact .leaveArray h
    · cases h; exact .same _
  | endChunkIfComplete k =>
    -- the chunk is not complete; or more chunks follow (back to the array's rule); or the array is left
    rcases ite_ok.1 h with ⟨-, h⟩ | ⟨-, h⟩
    · cases k with
      | any =>
        rcases ite_ok.1 h with ⟨-, h⟩ | ⟨-, h⟩
        · cases h; exact .quiet ⟨rfl, rfl, rfl⟩ rfl rfl rfl rfl
        · exact .leaveArray h
      | string | stringBuilder =>
        obtain ⟨-, h⟩ := ite_error_ok.1 h
        rcases ite_ok.1 h with ⟨-, h⟩ | ⟨-, h⟩
        · cases h; exact .quiet ⟨rfl, rfl, rfl⟩ rfl rfl rfl rfl
        · exact .leaveArray h
    · cases h; exact .same _
  | streamStringData =>
    obtain ⟨⟨s1, f, n⟩, hv, h⟩ := bind_ok.1 h
    cases h
    rw [streamStringData_eq] at hv
    split at hv <;> cases hv
    exact .quiet ⟨rfl, rfl, rfl⟩ rfl rfl rfl rfl
  | validateFullAny | validateFullStringlike | assertArrayType m | validateFirst | validateNext | parentDispatch m =>
    -- one check, then `pure (.next s args)` or `.call s ..`: the state is untouched
    obtain ⟨_, -, h⟩ := bind_ok.1 h
    cases h
    exact .same _
  | validateFullKeyable | validateFullStringlikeKeyable =>
    obtain ⟨_, -, h⟩ := bind_ok.1 h
    obtain ⟨_, -, h⟩ := bind_ok.1 h
    cases h
    exact .same _
  | changeRule r | redispatch m emptyKey | restoreMarkerID | addFirst | addNext | addBuiltData =>
    -- at most the current rule or a scratch field changes
    cases h
    exact .quiet ⟨rfl, rfl, rfl⟩ rfl rfl rfl rfl
  | endDocument | checkVersion | markCompletedChunk =>
    obtain ⟨-, h⟩ := ite_error_ok.1 h
    cases h
    exact .quiet ⟨rfl, rfl, rfl⟩ rfl rfl rfl rfl
  | lookupArrayDataType =>
    simp only [execAct, actLookupArrayDataType] at h
    split at h <;> cases h
    exact .same _
  | beginChunk k =>
    obtain ⟨-, h⟩ := ite_error_ok.1 h
    rcases ite_ok.1 h with ⟨-, h⟩ | ⟨-, h⟩ <;> cases h
    exact .quiet ⟨rfl, rfl, rfl⟩ rfl rfl rfl rfl

section lift
variable {cfg : Cfg} {R : RState → RState → Prop} (refl : ∀ s, R s s)
  (trans : ∀ {a b c}, R a b → R b c → R a c) (eff : ∀ {s s'}, Effect cfg s s' → R s s')
include refl trans eff

/-- a reflexive and transitive relation that every statement effect respects holds between the states
    before and after any statement list, nested rule calls included -/
theorem runActs_rel (tbl : RuleTable) : ∀ (fuel : Nat) (acts : List Act) (s : RState) (args : Args) (s' : RState),
    runActs tbl cfg fuel acts s args = .ok s' → R s s'
  | _, [], s, _, s', h => by rw [runActs, ok_inj] at h; exact h ▸ refl s
  | 0, _ :: _, _, _, _, h => by cases h
  | fuel + 1, a :: rest, s, args, s', h => by
    simp only [runActs] at h
    split at h
    · cases h
    · rename_i s1 args1 he
      exact trans (eff (execAct_effect he)) (runActs_rel tbl fuel rest s1 args1 s' h)
    · rename_i s1 he
      cases h; exact eff (execAct_effect he)
    · rename_i s1 r m args1 thenRet he
      split at h
      · cases h
      · rename_i s2 hc
        have h2 := trans (eff (execAct_effect he)) (runActs_rel tbl fuel (tbl r m) s1 args1 s2 hc)
        split at h
        · cases h; exact h2
        · exact trans h2 (runActs_rel tbl fuel rest s2 args s' h)

theorem call_rel {tbl : RuleTable} {s s' : RState} {m : Method} {args : Args}
    (h : call tbl cfg s m args = .ok s') : R s s' :=
  runActs_rel refl trans eff tbl _ _ s args s' h

end lift

section lift
variable {env : Env} {R : RState → RState → Prop} (refl : ∀ s, R s s)
  (trans : ∀ {a b c}, R a b → R b c → R a c) (eff : ∀ {s s'}, Effect env.cfg s s' → R s s')
  (nno : ∀ {s b s'}, notifyNewObject env.cfg s b = .ok s' → R s s')
include refl trans eff nno

theorem step_rel {s : RState} {e : Ev} {r : RState × List Ev} (h : step env s e = .ok r) : R s r.1 := by
  obtain ⟨s1, h1, h2, -⟩ := step_ok h
  refine trans ?_ (call_rel refl trans eff h2)
  unfold noted at h1
  split at h1
  · exact nno h1
  · exact pure_ok.1 h1 ▸ refl s

theorem Runs.rel {s s' : RState} {evs : List Ev} (h : Runs env s evs s') : R s s' := by
  induction h with
  | nil s => exact refl s
  | cons hs _ ih => exact trans (step_rel refl trans eff nno hs) ih

/-- a relation as in `runActs_rel` that `NotifyNewObject` respects too holds between the first state of any
    run and its last one (the state at the first rejected event, if there is one) -/
theorem run_rel (evs : List Ev) (s : RState) (i : Nat) : R s (run env s evs i).2.2 := by
  rcases run_spec env evs s i with ⟨_, hr, he⟩ | ⟨_, _, _, _, _, -, hr, -, he⟩ <;> rw [he] <;>
    exact Runs.rel refl trans eff nno hr

end lift

theorem run_inv {env : Env} {P : RState → Prop} (eff : ∀ {s s'}, Effect env.cfg s s' → P s → P s')
    (nno : ∀ {s b s'}, notifyNewObject env.cfg s b = .ok s' → P s → P s') (evs : List Ev) (s : RState) (i : Nat) :
    P s → P (run env s evs i).2.2 :=
  run_rel (R := fun s s' => P s → P s') (fun _ h => h) (fun f g h => g (f h)) eff nno evs s i

end CE.Rules

import CE.Rules.Markers
/-
  C13, type masks over whole documents (`accepted_reference_types_fit`).  A relation over `run`, lifted by
  `run_rel`: "x is covered for mask m" = x is registered with a type inside m, or x waits with a mask inside m.
  Every effect keeps it (a waiting mask only narrows; registering checks the type against it), an accepted
  reference establishes it, and the document ends only with nothing waiting.  References are recorded with the
  masks `any` and `keyable` only (`MaskOK`, carried by `Effect.ref`), and keyable ⊆ any: that keeps a waiting mask
  from ever narrowing to 0, which the code would read as "not waiting".
-/
namespace CE.Rules

/-- `any` has all 36 type bits, so it is neutral for `&&&` on every mask; here for the one mask that matters -/
theorem keyable_and_any : Mask.keyable.bits &&& Mask.any.bits = Mask.keyable.bits := by decide

theorem maskOK_ne {m : DT} (h : MaskOK m) : m ≠ 0 := by
  rcases h with rfl | rfl <;> decide

theorem maskOK_and {w a : DT} (hw : MaskOK w) (ha : MaskOK a) : MaskOK (w &&& a) := by
  rcases hw with rfl | rfl <;> rcases ha with rfl | rfl
  · exact .inl (Nat.and_self _)
  · exact .inr (Nat.and_comm _ _ ▸ keyable_and_any)
  · exact .inr keyable_and_any
  · exact .inr (Nat.and_self _)

/-- every waiting reference waits with one of the two masks -/
def WInv (s : RState) : Prop := ∀ p ∈ s.forward, MaskOK p.2

/-- identifier x is covered for mask m: registered with a type inside m, or waiting with a mask inside m -/
def tcov (s : RState) (x : Bytes) (m : DT) : Prop :=
  (∃ dt, lookupForward s.marked x = some dt ∧ dt &&& m ≠ 0) ∨
  (lookupForward s.marked x = none ∧ ∃ w, lookupForward s.forward x = some w ∧ w &&& m = w)

/-- from s to s': the waiting masks stay the two known ones and mask coverage is kept.  `WInv` is a premise
    inside the relation, not a separate invariant, because coverage is kept only while no waiting mask is 0. -/
def TMono (s s' : RState) : Prop := WInv s → (WInv s' ∧ ∀ x m, tcov s x m → tcov s' x m)

theorem tmono_refl (s : RState) : TMono s s := fun h => ⟨h, fun _ _ hx => hx⟩
theorem tmono_trans {a b c : RState} (h1 : TMono a b) (h2 : TMono b c) : TMono a c := fun h =>
  ⟨(h2 (h1 h).1).1, fun x m hx => (h2 (h1 h).1).2 x m ((h1 h).2 x m hx)⟩

theorem WInv.init : WInv RState.init := fun _ hp => nomatch hp

theorem same_fields_t {s s' : RState} (h1 : s'.marked = s.marked) (h2 : s'.forward = s.forward) : TMono s s' := by
  intro hw
  unfold WInv tcov at *
  rw [h1, h2]
  exact ⟨hw, fun _ _ hx => hx⟩

theorem markObject_t (cfg : Cfg) (s s' : RState) (dt : DT) (h : markObject cfg s dt = .ok s') : TMono s s' := by
  obtain ⟨-, hn, hchk, rfl⟩ := markObject_ok.1 h
  refine fun hw => ⟨fun p hp => hw p (List.mem_filter.1 hp).1, fun x m hx => ?_⟩
  unfold tcov at *
  simp only [lookup_cons, lookup_filter]
  by_cases hx' : s.markerID = x
  · subst hx'
    -- the identifier was waiting: its mask has just been checked against the type
    obtain ⟨w, hwx, hwm⟩ := (hx.resolve_left (by simp [hn])).2
    refine .inl ⟨dt, by simp, fun hz => hchk w hwx ?_⟩
    rw [← hwm, Nat.and_assoc, Nat.and_comm m dt, hz, Nat.and_zero]
  · simp only [beq_false_of_ne hx', Bool.false_eq_true, if_false]
    exact hx

theorem localReference_t (s s' : RState) (id : Bytes) (a : DT) (ha : MaskOK a) (h : localReference s id a = .ok s') :
    TMono s s' ∧ (WInv s → tcov s' id a) := by
  rcases localReference_ok.1 h with ⟨d, hd, hchk, rfl⟩ | ⟨hnone, rfl⟩
  · exact ⟨tmono_refl _, fun _ => .inl ⟨d, hd, hchk⟩⟩
  -- the mask the id waits with afterwards
  generalize hnw : (if (lookupForward s.forward id).getD 0 = 0 then a else (lookupForward s.forward id).getD 0 &&& a) = nw
  have hnwa : nw &&& a = nw := hnw ▸ narrowed_and _ a
  refine ⟨fun hw => ⟨?_, fun x m hx => ?_⟩, fun _ => .inr ⟨hnone, nw, by simp [lookup_cons], hnwa⟩⟩
  · intro p hp
    rcases List.mem_cons.1 hp with rfl | hp
    · subst hnw; split
      · exact ha
      · rename_i hc
        cases hl : lookupForward s.forward id with
        | none => simp [hl] at hc
        | some w =>
          obtain ⟨p, hp, rfl⟩ := lookup_pair_mem _ _ _ hl
          exact maskOK_and (hw p hp) ha
    · exact hw p (List.mem_filter.1 hp).1
  · unfold tcov at *
    simp only [lookup_cons, lookup_filter]
    by_cases hx' : id = x
    · subst hx'
      obtain ⟨w, hwx, hwm⟩ := (hx.resolve_left (by simp [hnone])).2
      obtain ⟨p, hp, rfl⟩ := lookup_pair_mem _ _ _ hwx
      refine .inr ⟨hnone, nw, by simp, ?_⟩
      subst hnw
      simp only [hwx, Option.getD_some, maskOK_ne (hw p hp), if_false]
      rw [Nat.and_assoc, Nat.and_comm a m, ← Nat.and_assoc, hwm]
    · simp only [beq_false_of_ne hx', Bool.false_eq_true, if_false]
      exact hx

theorem Effect.tmono {cfg : Cfg} {s s' : RState} (h : Effect cfg s s') : TMono s s' := by
  rcases h.kinds with hs | ⟨dt, hm⟩ | ⟨id, m, hmk, hl⟩
  · exact same_fields_t hs.1 hs.2.1
  · exact markObject_t cfg _ _ _ hm
  · exact (localReference_t _ _ _ _ hmk hl).1

theorem nno_t {cfg : Cfg} {s s' : RState} {b : Bool} (h : notifyNewObject cfg s b = .ok s') : TMono s s' :=
  same_fields_t (nno_same cfg s s' b h).1 (nno_same cfg s s' b h).2

theorem Runs.tmono {env : Env} {s s' : RState} {evs : List Ev} (h : Runs env s evs s') : TMono s s' :=
  Runs.rel tmono_refl tmono_trans Effect.tmono nno_t h

theorem run_t (env : Env) (evs : List Ev) (s : RState) (i : Nat) : TMono s (run env s evs i).2.2 :=
  run_rel tmono_refl tmono_trans Effect.tmono nno_t evs s i

theorem step_ref_t (env : Env) (htbl : env.tbl = Model.ruleTable) (s : RState) (id : Bytes) (m : DT) (r : RState × List Ev)
    (hm : refMask (Model.ruleTable s.cur.rule .onReferenceLocal) = some m) (hw : WInv s)
    (h : step env s (.refLocal id) = .ok r) : WInv r.1 ∧ tcov r.1 id m := by
  obtain ⟨s1, h1, h2, -⟩ := step_ok h
  obtain ⟨m', s2, fuel, rest, hm', hmk, hl, hr⟩ := call_ref (args := { id := id }) (htbl ▸ h2)
  rw [noted_rule h1, hm] at hm'
  cases hm'
  have hlr := localReference_t _ _ _ _ hmk hl
  have hw1 := (nno_t (show notifyNewObject env.cfg s true = .ok s1 from h1) hw).1
  have hrest := runActs_rel tmono_refl tmono_trans Effect.tmono _ _ _ _ _ _ hr (hlr.1 hw1).1
  exact ⟨hrest.1, hrest.2 _ _ (hlr.2 hw1)⟩

theorem accepted_reference_types_fit (env : Env) (htbl : env.tbl = Model.ruleTable) (a b : List Ev) (id : Bytes) (m : DT)
    (h : (run env RState.init (a ++ (Ev.refLocal id :: (b ++ [Ev.endDoc]))) 0).2.1 = none)
    (hm : refMask (Model.ruleTable (run env RState.init a 0).2.2.cur.rule .onReferenceLocal) = some m) :
    ∃ dt, lookupForward (run env RState.init (a ++ (Ev.refLocal id :: (b ++ [Ev.endDoc]))) 0).2.2.marked id = some dt ∧ dt &&& m ≠ 0 := by
  obtain ⟨sf, hr, he⟩ := run_ok h
  rw [he]
  -- the run, cut before the reference, after it, and before the end of the document
  obtain ⟨sa, ha, hr⟩ := Runs.cut hr
  cases hr with | cons hs hr =>
  obtain ⟨sb, hb, hr⟩ := Runs.cut hr
  cases hr with | cons hs2 hr =>
  cases hr
  rw [ha.run 0] at hm
  obtain ⟨hw1, hc1⟩ := step_ref_t env htbl sa id m _ hm (ha.tmono WInv.init).1 hs
  obtain ⟨hwb, hcb⟩ := hb.tmono hw1
  -- nothing is waiting when the document ends, so `id` is covered as a registered marker
  rcases ((Runs.cons hs2 (.nil _)).tmono hwb).2 id m (hcb id m hc1) with hd | ⟨_, w, hwx, _⟩
  · exact hd
  · rw [(step_endDoc_resolved env htbl sb _ hs2).1] at hwx; simp [lookupForward] at hwx

end CE.Rules

import CE.Rules.Basics
import CE.Rules.Measure
/-
  Events and whole streams.  The event dispatcher is one equation (`step_eq`; `step_ok` is what it says of an
  accepted event).  `Runs` is the relation "accepted, from this state to that", and `run_spec` says what `run`
  returns in its terms.
-/
namespace CE.Rules

/-- the events that count as objects (everything but the document frame, padding, comments, the end
    of a container and the chunk / data events of an array already counted at its begin) -/
def countsAsObject : Ev → Bool
  | .beginDoc | .endDoc | .version _ | .padding | .comment _ _ | .endContainer | .arrayChunk _ _ | .arrayData _ => false
  | _ => true

/-- the method of the current rule that `RulesEventReceiver` calls for an event ... -/
def methodOf : Ev → Method
  | .beginDoc => .onBeginDocument | .endDoc => .onEndDocument | .version _ => .onVersion
  | .padding => .onPadding | .comment _ _ => .onComment
  | .null | .bigInt none | .bigFloat none | .bigDecimal none => .onNull
  | .bool _ | .true_ | .false_ | .posInt _ | .negInt _ | .int _ | .bigInt (some _) | .uid _ | .time _ => .onKeyableObject
  | .float _ | .bigFloat (some _) | .dfloat _ | .bigDecimal (some _) | .nan _ => .onNonKeyableObject
  | .array .. | .media .. | .customBinary .. => .onArray
  | .stringlike .. | .customText .. => .onStringlikeArray
  | .arrayBegin _ | .mediaBegin _ | .customBegin .. => .onArrayBegin
  | .arrayChunk .. => .onArrayChunk | .arrayData _ => .onArrayData
  | .list => .onList | .map => .onMap | .endContainer => .onEnd
  | .recordType _ => .onRecordType | .record _ => .onRecord | .node => .onNode | .edge => .onEdge
  | .marker _ => .onMarker | .refLocal _ => .onReferenceLocal

/-- ... and the arguments it passes -/
def argsOf : Ev → Args
  | .version v => { version := v }
  | .bool b => { objType := DT.bool, key := some (.bool b) }
  | .true_ => { objType := DT.bool, key := some (.bool true) }
  | .false_ => { objType := DT.bool, key := some (.bool false) }
  | .posInt n => { objType := DT.int, key := some (intKey n) }
  | .negInt n => { objType := DT.int, key := some (intKey (-(n : Int))) }
  | .int i | .bigInt (some i) => { objType := DT.int, key := some (intKey i) }
  | .uid b => { objType := DT.uid, key := some (uidKey b) }
  | .time t => { objType := DT.time, key := some (.time t) }
  | .float b => { objType := if F.isNaN64 b then DT.nan else DT.float }
  | .dfloat .nan | .dfloat .snan | .bigDecimal (some .nan) | .bigDecimal (some .snan) | .nan _ => { objType := DT.nan }
  | .bigFloat (some _) | .dfloat _ | .bigDecimal (some _) => { objType := DT.float }
  | .array t c d => { arrT := t, count := c, data := d }
  | .media _ d => { arrT := .media, count := d.length, data := d }
  | .customBinary _ d => { arrT := .customBinary, count := d.length, data := d }
  | .stringlike t d => { arrT := t, data := d }
  | .customText _ d => { arrT := .customText, data := d }
  | .arrayBegin t | .customBegin t _ => { arrT := t }
  | .mediaBegin _ => { arrT := .media }
  | .arrayChunk n more => { length := n, more := more }
  | .arrayData d => { data := d }
  | .recordType id | .record id | .marker id | .refLocal id => { id := id }
  | _ => {}

theorem methodOf_endDoc {e : Ev} : methodOf e = .onEndDocument ↔ e = .endDoc := by
  unfold methodOf
  split <;> simp

/-- the checks on an event's own arguments that come before `NotifyNewObject` ... -/
def preCheck (env : Env) : Ev → M Unit
  | .comment multi txt => if !commentOK multi txt then throw RErr.comment else pure ()
  | .time t => if timeOK t then pure () else .error .time
  | .array t _ _ | .stringlike t _ | .arrayBegin t =>
    (match t with | .customBinary | .customText | .media => .error .apiMisuse | _ => .ok ())
  | .media mt _ | .mediaBegin mt => if !mediaTypeOK mt then throw RErr.mediaType else pure ()
  | .customBegin t _ => (match t with | .customBinary | .customText => pure () | _ => throw RErr.apiMisuse)
  | .marker id | .refLocal id => validateIdentifier env.cfg env.identSafe id
  | _ => pure ()

/-- ... and the one that comes after it -/
def postCheck (env : Env) : Ev → M Unit
  | .recordType id | .record id => validateIdentifier env.cfg env.identSafe id
  | _ => pure ()

/-- `NotifyNewObject`, exactly for the events that count as objects (the flag is Go's `isRealObject`, false only
    for a record type) -/
def noted (cfg : Cfg) (e : Ev) (s : RState) : M RState :=
  match countsAsObject e with
  | true => notifyNewObject cfg s (match e with | .recordType _ => false | _ => true)
  | false => pure s

theorem noted_rule {cfg : Cfg} {e : Ev} {s s1 : RState} (h : noted cfg e s = .ok s1) : s1.cur.rule = s.cur.rule := by
  unfold noted at h
  split at h
  · exact nno_rule _ _ _ _ h
  · rw [pure_ok.1 h]

/-- Every alternative of the dispatcher has one shape: the event's own checks around `NotifyNewObject`, one
    method of the current rule, one event forwarded.  Each alternative unfolds to it; where the dispatcher
    branches before it calls (`if c then throw ..` in a `do` block copies what follows into both branches) the
    branches do. -/
theorem step_eq (env : Env) (s : RState) (e : Ev) :
    step env s e = (do
      preCheck env e
      let s1 ← noted env.cfg e s
      postCheck env e
      let s2 ← call env.tbl env.cfg s1 (methodOf e) (argsOf e)
      pure (s2, [Spec.forwardOf e])) := by
  cases e with
  | bigInt x | bigFloat x => cases x <;> rfl
  | dfloat d => cases d <;> rfl
  | bigDecimal x =>
    cases x with
    | none => rfl
    | some d => cases d <;> rfl
  -- `f.eq_def` is the one equation `f .. = match ..`; `simp only [f]` would first derive an equation for each of
  -- the forty alternatives of each `match`, which nothing else uses
  | float b => simp only [step.eq_def, argsOf.eq_def, methodOf.eq_def, Spec.forwardOf.eq_def]; split <;> rfl
  | comment multi txt | time t | media mt d | mediaBegin mt => simp only [step.eq_def, preCheck.eq_def]; split <;> rfl
  | _ => rfl

/-- The shape of every accepted event. -/
theorem step_ok {env : Env} {s : RState} {e : Ev} {r : RState × List Ev} (h : step env s e = .ok r) :
    ∃ s1, noted env.cfg e s = .ok s1 ∧ call env.tbl env.cfg s1 (methodOf e) (argsOf e) = .ok r.1 ∧
      r.2 = [Spec.forwardOf e] := by
  simp only [step_eq, bind_ok, pure_ok] at h
  obtain ⟨_, -, s1, h1, _, -, s2, h2, rfl⟩ := h
  exact ⟨s1, h1, h2, rfl⟩

/-- `Runs env s evs s'`: the validator accepts every event of `evs`, one after the other, and that takes it from
    state `s` to state `s'` -/
inductive Runs (env : Env) : RState → List Ev → RState → Prop
  | nil (s : RState) : Runs env s [] s
  | cons {s s' : RState} {e : Ev} {es : List Ev} {r : RState × List Ev} :
      step env s e = .ok r → Runs env r.1 es s' → Runs env s (e :: es) s'

/-- an accepted run, cut anywhere, is two accepted runs -/
theorem Runs.cut {env : Env} {q : List Ev} {s' : RState} : ∀ {p : List Ev} {s : RState},
    Runs env s (p ++ q) s' → ∃ m, Runs env s p m ∧ Runs env m q s'
  | [], s, h => ⟨s, .nil s, h⟩
  | _ :: _, _, .cons hs hr =>
    let ⟨m, h1, h2⟩ := Runs.cut hr
    ⟨m, .cons hs h1, h2⟩

/-- after an accepted run, `run` goes on as from the state reached -/
theorem Runs.run_append {env : Env} {s s' : RState} {p : List Ev} (h : Runs env s p s') (q : List Ev) (i : Nat) :
    run env s (p ++ q) i =
      (p.map Spec.forwardOf ++ (run env s' q (i + p.length)).1, (run env s' q (i + p.length)).2.1,
       (run env s' q (i + p.length)).2.2) := by
  induction h generalizing i with
  | nil s => rfl
  | cons hs _ ih =>
    obtain ⟨_, -, -, hf⟩ := step_ok hs
    simp only [List.cons_append, run, hs, ih, hf, List.map_cons, List.length_cons, List.nil_append,
      Nat.add_assoc, Nat.add_comm 1]

theorem Runs.run {env : Env} {s s' : RState} {evs : List Ev} (h : Runs env s evs s') (i : Nat) :
    run env s evs i = (evs.map Spec.forwardOf, none, s') := by
  simpa [CE.Rules.run] using h.run_append [] i

/-- What `run` returns: all of `evs` is accepted, or an accepted part `p` of it is followed by an event that is
    rejected in the state `p` leads to.  Whole-run statements know `run` through this. -/
theorem run_spec (env : Env) : ∀ (evs : List Ev) (s : RState) (i : Nat),
    (∃ s', Runs env s evs s' ∧ run env s evs i = (evs.map Spec.forwardOf, none, s')) ∨
    (∃ p e q s' err, evs = p ++ e :: q ∧ Runs env s p s' ∧ step env s' e = .error err ∧
      run env s evs i = (p.map Spec.forwardOf, some (i + p.length, err), s')) := by
  intro evs
  induction evs with
  | nil => exact fun s _ => .inl ⟨s, .nil s, rfl⟩
  | cons e es ih =>
    intro s i
    cases hs : step env s e with
    | error err => exact .inr ⟨[], e, es, s, err, rfl, .nil s, hs, by simp [run, hs]⟩
    | ok r =>
      rcases ih r.1 (i + 1) with ⟨s', hr, -⟩ | ⟨p, e', q, s', err, rfl, hr, he, -⟩
      · exact .inl ⟨s', .cons hs hr, (Runs.cons hs hr).run i⟩
      · exact .inr ⟨e :: p, e', q, s', err, rfl, .cons hs hr, he, by
          rw [← List.cons_append, (Runs.cons hs hr).run_append]; simp [run, he]⟩

theorem run_ok {env : Env} {s : RState} {evs : List Ev} {i : Nat} (h : (run env s evs i).2.1 = none) :
    ∃ s', Runs env s evs s' ∧ run env s evs i = (evs.map Spec.forwardOf, none, s') :=
  (run_spec env evs s i).resolve_right fun ⟨_, _, _, _, _, _, _, _, he⟩ => by rw [he] at h; cases h

/-- in terms of `run` alone: a stream that is accepted is accepted up to any cut ... -/
theorem run_append_ok (env : Env) (p q : List Ev) (s : RState) (i : Nat) (h : (run env s (p ++ q) i).2.1 = none) :
    (run env s p i).2.1 = none := by
  obtain ⟨_, hr, -⟩ := run_ok h
  obtain ⟨_, hp, -⟩ := Runs.cut hr
  rw [hp.run]

/-- ... and after an accepted part `run` goes on as from the state that part leads to -/
theorem run_append (env : Env) (p q : List Ev) (s : RState) (i : Nat) (h : (run env s p i).2.1 = none) :
    run env s (p ++ q) i =
      ((run env s p i).1 ++ (run env (run env s p i).2.2 q (i + p.length)).1,
       (run env (run env s p i).2.2 q (i + p.length)).2.1,
       (run env (run env s p i).2.2 q (i + p.length)).2.2) := by
  obtain ⟨_, hr, he⟩ := run_ok h
  rw [he]
  exact hr.run_append q i

end CE.Rules

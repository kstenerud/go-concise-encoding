import CE.Rules.Effect
import CE.Rules.Table
/-
  C13 over whole documents.  `covers s x`: the validator knows the identifier `x` - a marker of that name is
  registered, or a reference to it waits for its marker.  No effect of a statement uncovers anything
  (`Effect.covers`); an accepted local-reference event covers its identifier (every rule's OnReferenceLocal
  rejects or starts by recording the reference, `refMask_table`); the end of the document is accepted only with
  nothing waiting (`step_endDoc_ok`).  Hence `accepted_references_have_markers`.  `Partitioned`: registered
  and waiting identifiers never repeat.
-/
namespace CE.Rules

/-- identifiers the validator knows about: marked, or referenced and waiting for their marker -/
def covers (s : RState) (x : Bytes) : Prop := x ∈ s.marked.map (·.1) ∨ x ∈ s.forward.map (·.1)

/-- whatever `s` knows, `s'` knows -/
def CovMono (s s' : RState) : Prop := ∀ x, covers s x → covers s' x

theorem covMono_refl (s : RState) : CovMono s s := fun _ h => h

theorem covMono_trans {a b c : RState} (h1 : CovMono a b) (h2 : CovMono b c) : CovMono a c := fun x h => h2 x (h1 x h)

theorem same_refl (s : RState) : SameRefs s s := ⟨rfl, rfl, rfl⟩

theorem same_trans {a b c : RState} (h1 : SameRefs a b) (h2 : SameRefs b c) : SameRefs a c :=
  ⟨h2.1.trans h1.1, h2.2.1.trans h1.2.1, h2.2.2.trans h1.2.2⟩

/-- the only masks references are recorded with are `any` and `keyable` -/
theorem execAct_kinds2 (cfg : Cfg) (a : Act) (s : RState) (args : Args) (st : Step)
    (h : execAct cfg a s args = .ok st) :
    SameRefs s st.state ∨ (∃ dt, markObject cfg s dt = .ok st.state) ∨
      (∃ id m, MaskOK m ∧ localReference s id m = .ok st.state) :=
  (execAct_effect h).kinds

/-- every statement of a rule method leaves the marker bookkeeping alone, except the two that are
    there to change it: registering a marker and recording a reference -/
theorem execAct_kinds (cfg : Cfg) (a : Act) (s : RState) (args : Args) (st : Step)
    (h : execAct cfg a s args = .ok st) :
    SameRefs s st.state ∨ (∃ dt, markObject cfg s dt = .ok st.state) ∨
      (∃ id m, localReference s id m = .ok st.state) :=
  (execAct_kinds2 cfg a s args st h).imp_right (.imp_right fun ⟨id, m, _, h⟩ => ⟨id, m, h⟩)

theorem map_fst_filter (l : List (Bytes × DT)) (id : Bytes) :
    (l.filter (·.1 != id)).map (·.1) = (l.map (·.1)).filter (· != id) := by
  rw [List.filter_map]; rfl

/-- striking `id` from an association list loses no other key -/
theorem mem_fst_filter {l : List (Bytes × DT)} {x : Bytes} (id : Bytes) (h : x ∈ l.map (·.1)) :
    x = id ∨ x ∈ (l.filter (·.1 != id)).map (·.1) := by
  rw [map_fst_filter, List.mem_filter]
  by_cases hx : x = id
  · exact .inl hx
  · exact .inr ⟨h, by simpa using hx⟩

theorem localReference_covers (s s' : RState) (id : Bytes) (allowed : DT) (h : localReference s id allowed = .ok s') :
    covers s' id ∧ ∀ x, covers s x → covers s' x := by
  rcases localReference_ok.1 h with ⟨dt, hl, -, rfl⟩ | ⟨-, rfl⟩
  · exact ⟨.inl (lookup_mem _ _ _ hl), fun x hx => hx⟩
  · exact ⟨.inr (List.mem_cons_self ..), fun x hx => hx.imp_right fun hx =>
      (mem_fst_filter id hx).elim (· ▸ List.mem_cons_self ..) (List.mem_cons_of_mem _)⟩

theorem markObject_covers (cfg : Cfg) (s s' : RState) (dt : DT) (h : markObject cfg s dt = .ok s') :
    ∀ x, covers s x → covers s' x := by
  obtain ⟨-, -, -, rfl⟩ := markObject_ok.1 h
  rintro x (hx | hx)
  · exact .inl (List.mem_cons_of_mem _ hx)
  · exact (mem_fst_filter s.markerID hx).imp (fun h : x = s.markerID => h ▸ List.mem_cons_self ..) id

theorem Effect.covers {cfg : Cfg} {s s' : RState} (h : Effect cfg s s') : CovMono s s' := by
  rcases h.kinds with hs | ⟨dt, hm⟩ | ⟨id, m, -, hl⟩
  · intro x hx; unfold CE.Rules.covers at *; rwa [hs.1, hs.2.1]
  · exact markObject_covers cfg _ _ _ hm
  · exact (localReference_covers _ _ _ _ hl).2

theorem execAct_covers (cfg : Cfg) (a : Act) (s : RState) (args : Args) (st : Step)
    (h : execAct cfg a s args = .ok st) : ∀ x, covers s x → covers st.state x :=
  (execAct_effect h).covers

theorem runActs_covers (tbl : RuleTable) (cfg : Cfg) : ∀ (fuel : Nat) (acts : List Act) (s : RState) (args : Args) (s' : RState),
    runActs tbl cfg fuel acts s args = .ok s' → ∀ x, covers s x → covers s' x :=
  runActs_rel covMono_refl covMono_trans Effect.covers tbl

theorem nno_same (cfg : Cfg) (s s' : RState) (b : Bool) (h : notifyNewObject cfg s b = .ok s') :
    s'.marked = s.marked ∧ s'.forward = s.forward := by
  obtain ⟨-, c, rfl⟩ := notifyNewObject_ok h
  exact ⟨rfl, rfl⟩

theorem nno_covers {cfg : Cfg} {s s' : RState} {b : Bool} (h : notifyNewObject cfg s b = .ok s') : CovMono s s' := by
  obtain ⟨h1, h2⟩ := nno_same _ _ _ _ h
  intro x hx; unfold covers at *; rwa [h1, h2]

theorem step_covers (env : Env) (s : RState) (e : Ev) (r : RState × List Ev) (h : step env s e = .ok r) : CovMono s r.1 :=
  step_rel covMono_refl covMono_trans Effect.covers nno_covers h

theorem Runs.covMono {env : Env} {s s' : RState} {evs : List Ev} (h : Runs env s evs s') : CovMono s s' :=
  Runs.rel covMono_refl covMono_trans Effect.covers nno_covers h

/-- mask of the position a reference is in: what the current rule's OnReferenceLocal records it with.  Only the
    head of the row is looked at: the reference has to be recorded before anything else happens (`runActs_ref`). -/
def refMask : List Act → Option DT
  | .localRefAny :: _ => some Mask.any.bits
  | .localRefKeyable :: _ => some Mask.keyable.bits
  | _ => none

theorem refMask_table : ∀ r ∈ Rule.all,
    Model.ruleTable r .onReferenceLocal = [.wrongType] ∨ (refMask (Model.ruleTable r .onReferenceLocal)).isSome := by
  decide

theorem runActs_ref {tbl : RuleTable} {cfg : Cfg} {fuel : Nat} {acts : List Act} {s s' : RState} {args : Args} {m : DT}
    (hm : refMask acts = some m) (h : runActs tbl cfg (fuel + 1) acts s args = .ok s') :
    MaskOK m ∧ ∃ s1 rest, localReference s args.id m = .ok s1 ∧ runActs tbl cfg fuel rest s1 args = .ok s' := by
  unfold refMask at hm
  split at hm <;> cases hm
  all_goals simp only [runActs, execAct, bind, Except.bind, pure, Except.pure] at h
  · cases hl : localReference s args.id Mask.any.bits with
    | error e => simp [hl] at h
    | ok s1 => exact ⟨.inl rfl, s1, _, rfl, by simpa only [hl] using h⟩
  · cases hl : localReference s args.id Mask.keyable.bits with
    | error e => simp [hl] at h
    | ok s1 => exact ⟨.inr rfl, s1, _, rfl, by simpa only [hl] using h⟩

/-- an accepted call of OnReferenceLocal starts by recording the reference with the mask of its position -/
theorem call_ref {cfg : Cfg} {s s' : RState} {args : Args}
    (h : call Model.ruleTable cfg s .onReferenceLocal args = .ok s') :
    ∃ m s1 fuel rest, refMask (Model.ruleTable s.cur.rule .onReferenceLocal) = some m ∧ MaskOK m ∧
      localReference s args.id m = .ok s1 ∧ runActs Model.ruleTable cfg fuel rest s1 args = .ok s' := by
  rcases refMask_table s.cur.rule (rule_mem_all _) with ht | ht
  · rw [call_wrongType ht] at h; cases h
  · unfold call fuel0 at h
    obtain ⟨m, hm⟩ := Option.isSome_iff_exists.1 ht
    obtain ⟨hmk, s1, rest, hl, hr⟩ := runActs_ref hm h
    exact ⟨m, s1, _, rest, hm, hmk, hl, hr⟩

theorem step_ref_covers (env : Env) (htbl : env.tbl = Model.ruleTable) (s : RState) (id : Bytes) (r : RState × List Ev)
    (h : step env s (.refLocal id) = .ok r) : covers r.1 id := by
  obtain ⟨s1, -, h2, -⟩ := step_ok h
  obtain ⟨m, s2, fuel, rest, -, -, hl, hr⟩ := call_ref (args := { id := id }) (htbl ▸ h2)
  exact runActs_covers _ _ _ _ _ _ _ hr _ (localReference_covers _ _ _ _ hl).1

theorem Runs.covers {env : Env} (htbl : env.tbl = Model.ruleTable) {s s' : RState} {evs : List Ev}
    (h : Runs env s evs s') {id : Bytes} (hid : Ev.refLocal id ∈ evs) : covers s' id := by
  induction h with
  | nil s => cases hid
  | cons hs hr ih =>
    rcases List.mem_cons.1 hid with rfl | hid
    · exact hr.covMono id (step_ref_covers _ htbl _ id _ hs)
    · exact ih hid

/-- only the rule that follows the top-level object implements OnEndDocument -/
theorem endDoc_table : ∀ r ∈ Rule.all,
    Model.ruleTable r .onEndDocument = if r = .endDocument then [.endDocument] else [.wrongType] := by decide

/-- the end of the document is accepted only under the rule that follows the top-level object and only with no
    reference waiting; it leads to the terminal rule and changes nothing else -/
theorem step_endDoc_ok {env : Env} (htbl : env.tbl = Model.ruleTable) {s : RState} {r : RState × List Ev}
    (h : step env s .endDoc = .ok r) : s.cur.rule = .endDocument ∧ s.forward = [] ∧ r.1 = changeRule s .terminal := by
  obtain ⟨s1, h1, hv, -⟩ := step_ok h
  rw [show s1 = s from pure_ok.1 h1, htbl] at hv
  change call Model.ruleTable env.cfg s .onEndDocument {} = _ at hv
  have ht := endDoc_table s.cur.rule (rule_mem_all _)
  split at ht
  · -- `fuel0` has to be seen as a successor for `runActs` to take a step
    unfold call fuel0 at hv
    rw [ht] at hv
    by_cases hlen : s.forward.length > 0
    · simp [runActs, execAct, hlen] at hv
    · simp only [runActs, execAct, hlen, if_false, ok_inj] at hv
      exact ⟨‹_›, List.eq_nil_of_length_eq_zero (by omega), hv⟩
  · rw [call_wrongType ht] at hv; cases hv

theorem step_endDoc_resolved (env : Env) (htbl : env.tbl = Model.ruleTable) (s : RState) (r : RState × List Ev)
    (h : step env s .endDoc = .ok r) : r.1.forward = [] ∧ r.1.marked = s.marked := by
  obtain ⟨-, hf, hr⟩ := step_endDoc_ok htbl h
  rw [hr]
  exact ⟨hf, rfl⟩

theorem accepted_references_have_markers (env : Env) (htbl : env.tbl = Model.ruleTable) (evs : List Ev)
    (h : (run env RState.init (evs ++ [.endDoc]) 0).2.1 = none) :
    ∀ id, Ev.refLocal id ∈ evs →
      id ∈ ((run env RState.init (evs ++ [.endDoc]) 0).2.2.marked.map (·.1)) := by
  intro id hid
  obtain ⟨sf, hr, he⟩ := run_ok h
  rw [he]
  obtain ⟨m, h1, h2⟩ := Runs.cut hr
  cases h2 with | cons hs hn =>
  cases hn
  -- covered when the document ends, and nothing is waiting then
  exact (step_covers env m _ _ hs id (h1.covers htbl hid)).resolve_right
    (by rw [(step_endDoc_resolved env htbl _ _ hs).1]; simp)

/-- the identifiers the validator knows - registered markers and waiting references - hold no identifier twice:
    markers are pairwise distinct, so are the waiting references, and no waiting reference names a marker -/
def Partitioned (s : RState) : Prop := (s.marked.map (·.1) ++ s.forward.map (·.1)).Nodup

/-- an identifier that is not in `a` may be put in front of `a ++ b` once it is struck from `b` -/
theorem nodup_move {a b : List Bytes} {x : Bytes} (h : (a ++ b).Nodup) (hx : x ∉ a) :
    (x :: (a ++ b.filter (· != x))).Nodup :=
  List.nodup_cons.2 ⟨by simp [hx], h.sublist (List.Sublist.append (List.Sublist.refl a) List.filter_sublist)⟩

theorem Effect.partitioned {cfg : Cfg} {s s' : RState} (h : Effect cfg s s') (hp : Partitioned s) : Partitioned s' := by
  -- both effects that touch the tables strike `id` from the waiting list and enter it anew: registering puts it in
  -- front of the registered identifiers, recording a reference in front of the waiting ones
  rcases h.kinds with hs | ⟨dt, hm⟩ | ⟨id, m, -, hl⟩
  · unfold Partitioned; rwa [hs.1, hs.2.1]
  · obtain ⟨-, hn, -, rfl⟩ := markObject_ok.1 hm
    simp only [Partitioned, map_fst_filter, List.map_cons]
    exact nodup_move hp (lookup_eq_none.1 hn)
  · rcases localReference_ok.1 hl with ⟨-, -, -, rfl⟩ | ⟨hn, rfl⟩
    · exact hp
    · simp only [Partitioned, map_fst_filter, List.map_cons]
      exact List.perm_middle.nodup_iff.2 (nodup_move hp (lookup_eq_none.1 hn))

theorem run_partitioned (env : Env) : ∀ (evs : List Ev) (s : RState) (i : Nat),
    Partitioned s → Partitioned (run env s evs i).2.2 :=
  run_inv Effect.partitioned fun hn hp => by obtain ⟨h1, h2⟩ := nno_same _ _ _ _ hn; unfold Partitioned; rwa [h1, h2]

theorem Partitioned.init : Partitioned RState.init := List.nodup_nil

end CE.Rules

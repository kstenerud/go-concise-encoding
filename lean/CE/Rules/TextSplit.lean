import CE.Rules.ArraySplit
/-
  Text arrays (strings, resource ids, remote references, custom text) on the rule machine:
  `StringChunkRule.OnArrayData` is the streaming validator of CE/Basic/Utf8Stream.lean (`stepS_text`), hence a chunk,
  however its bytes are divided among data events, is accepted exactly when they are valid UTF-8 (`text_chunk`), and
  any division is indistinguishable from a single event (`text_any_split`).
-/
namespace CE.Rules
open CE.Utf8

theorem stringChunk_table :
    Model.ruleTable .stringChunk .onArrayData =
      [.markCompletedChunk, .streamStringData, .validateFirst, .validateNext, .addFirst, .addNext, .endChunkIfComplete .string] := rfl

/-- the state after the UTF-8 part of a text data event -/
def textAdvance (s : RState) (d : Bytes) (rp : Bytes × Bytes) : RState :=
  { s with chunkActual := s.chunkActual + d.length, utf8Rem := rp.1, built := s.built ++ rp.2 }

/-- what the completion of a text chunk makes of the validated bytes `pv` of the whole chunk; 7 is the length of
    the row `stringChunk_table` -/
def chunkEnd (cfg : Cfg) (s : RState) (pv : Bytes) : Option RState :=
  (chunkDone cfg (fuel0 - 7) .string
    { s with chunkActual := s.chunkExpected, utf8Rem := [], built := s.built ++ pv }).toOption

theorem chunkEnd_textAdvance (cfg : Cfg) (s : RState) (d : Bytes) (rp : Bytes × Bytes) (pv : Bytes) :
    chunkEnd cfg (textAdvance s d rp) pv = chunkEnd cfg s (rp.2 ++ pv) := by
  simp only [chunkEnd, textAdvance, List.append_assoc]

/-- the four statements of the text row between the stream step and the end of the chunk: both pieces are
    validated, then appended to what is built -/
theorem runActs_validate_add {tbl : RuleTable} {cfg : Cfg} {fuel : Nat} {rest : List Act} {s : RState} {args : Args}
    (hv : s.validator = .string) :
    runActs tbl cfg (fuel + 4) (.validateFirst :: .validateNext :: .addFirst :: .addNext :: rest) s args =
      if valid args.first && valid args.next then
        runActs tbl cfg fuel rest { s with built := s.built ++ args.first ++ args.next } args
      else .error .utf8 := by
  have hval : ∀ x : Bytes, ((do (if s.validator = .string then validateUtf8 x else pure ()); pure (Step.next s args)) : M Step) =
      if valid x then .ok (.next s args) else .error .utf8 := by
    intro x
    rw [if_pos hv, validateUtf8]
    split <;> rfl
  have hfirst : execAct cfg .validateFirst s args = if valid args.first then .ok (.next s args) else .error .utf8 :=
    hval args.first
  have hnext : execAct cfg .validateNext s args = if valid args.next then .ok (.next s args) else .error .utf8 :=
    hval args.next
  cases hf : valid args.first
  · rw [hf] at hfirst
    exact runActs_error hfirst
  · rw [hf] at hfirst
    rw [runActs_next hfirst]
    cases hn : valid args.next
    · rw [hn] at hnext
      exact runActs_error hnext
    · rw [hn] at hnext
      rw [runActs_next hnext]
      rfl

/-- a text data event that does not overflow the chunk is the streaming validator's step; the event that fills
    the chunk must leave nothing held back -/
theorem stepS_text (cfg : Cfg) (f : Bytes → Bool) (s : RState) (d : Bytes)
    (hr : s.cur.rule = .stringChunk) (hv : s.validator = .string) (h : s.chunkActual + d.length ≤ s.chunkExpected) :
    (stepS (env0 cfg f) s (.arrayData d)).toOption =
      if s.chunkActual + d.length = s.chunkExpected then
        (sstep s.utf8Rem d).bind fun rp => if rp.1 = [] then chunkEnd cfg s rp.2 else none
      else (sstep s.utf8Rem d).map (textAdvance s d) := by
  have hne : ¬ (s.chunkActual + d.length > s.chunkExpected) := Nat.not_lt.2 h
  rw [stepS_arrayData, call, env0, hr]
  dsimp only
  rw [stringChunk_table, fuel0, sstep]
  -- the row, statement by statement
  have h1 : execAct cfg .markCompletedChunk s { data := d } =
      .ok (.next { s with chunkActual := s.chunkActual + d.length } { data := d }) := if_neg hne
  rw [runActs_next h1]
  cases hraw : sraw s.utf8Rem d with
  | none =>
    have h2 : execAct cfg .streamStringData { s with chunkActual := s.chunkActual + d.length } { data := d } =
        .error .runtime := by
      simp only [execAct, actStreamStringData, streamStringData_eq, hraw]
      rfl
    rw [runActs_error h2]
    -- rejected: on the right both branches are `none`
    exact (ite_self none).symm
  | some rfn =>
    obtain ⟨r, fst, nxt⟩ := rfn
    have h2 : execAct cfg .streamStringData { s with chunkActual := s.chunkActual + d.length } { data := d } =
        .ok (.next { s with chunkActual := s.chunkActual + d.length, utf8Rem := r }
          { data := d, first := fst, next := nxt }) := by
      simp only [execAct, actStreamStringData, streamStringData_eq, hraw]
      rfl
    rw [runActs_next h2,
      runActs_validate_add (s := { s with chunkActual := s.chunkActual + d.length, utf8Rem := r }) hv]
    dsimp only
    cases hvv : valid fst && valid nxt
    · rw [if_neg Bool.false_ne_true, if_neg Bool.false_ne_true]
      exact (ite_self none).symm
    · -- both pieces valid: the last statement sees the state `textAdvance s d (r, fst ++ nxt)`
      rw [if_pos rfl, if_pos rfl, List.append_assoc]
      by_cases hc : s.chunkActual + d.length = s.chunkExpected
      · by_cases hr0 : r = []
        · rw [runActs_endChunk cfg _ .string _ _ hc (.inr hr0), if_pos hc]
          subst hr0; simp [chunkEnd, fuel0, hc, hv]
        · rw [runActs_endChunk_rem cfg _ _ _ hc hr0, if_pos hc]
          simp [Except.toOption, hr0]
      · rw [runActs_endChunk_open cfg _ .string _ _ hc, if_neg hc]
        simp [Except.toOption, textAdvance, hv]

/-- A text chunk, however its bytes are divided among data events (inside characters too), is accepted exactly
    when they continue what was held back to valid UTF-8, and then ends with them appended.  The validator's verdict
    on each event is right for what it has seen (`sstep_right`); what it still holds at the end decides. -/
theorem text_chunk (cfg : Cfg) (f : Bytes → Bool) (ds : List Bytes) (d : Bytes) (hd : 0 < d.length) : ∀ (s : RState),
    s.cur.rule = .stringChunk → s.validator = .string → RemOK s.utf8Rem →
    s.chunkActual + totalLen ds + d.length = s.chunkExpected →
    ((feed (env0 cfg f) s ds).bind (fun s' => stepS (env0 cfg f) s' (.arrayData d))).toOption =
      if valid (s.utf8Rem ++ (ds.flatten ++ d)) then chunkEnd cfg s (s.utf8Rem ++ (ds.flatten ++ d)) else none := by
  induction ds with
  | nil =>
    intro s hr hv hok hfill
    rw [totalLen, List.map_nil, List.sum_nil, Nat.add_zero] at hfill
    have h1 := sstep_right s.utf8Rem d hok
    rw [feed, Except.bind, stepS_text cfg f s d hr hv (Nat.le_of_eq hfill), if_pos hfill, List.flatten_nil, List.nil_append]
    cases hs : sstep s.utf8Rem d with
    | none => rw [hs] at h1; have := h1 []; rw [List.append_nil] at this; simp [this]
    | some rp =>
      obtain ⟨r, pv⟩ := rp
      rw [hs] at h1
      obtain ⟨heq, hpv, hokr⟩ := h1
      rw [heq, valid_append _ _ hpv]
      by_cases hr0 : r = []
      · subst hr0; simp [valid_nil]
      · have : valid r = false := by cases hvr : valid r; rfl; exact absurd (remOK_valid r hokr hvr) hr0
        simp [hr0, this]
  | cons d0 ds ih =>
    intro s hr hv hok hfill
    rw [totalLen_cons] at hfill
    have h1 := sstep_right s.utf8Rem d0 hok
    -- `d` is still to come, so `d0` does not fill the chunk
    have hlt : s.chunkActual + d0.length < s.chunkExpected := by omega
    rw [feed, toOption_bind_bind, stepS_text cfg f s d0 hr hv (Nat.le_of_lt hlt), if_neg (Nat.ne_of_lt hlt),
      List.flatten_cons, List.append_assoc, ← List.append_assoc s.utf8Rem]
    cases hs : sstep s.utf8Rem d0 with
    | none => rw [hs] at h1; rw [h1 _]; rfl
    | some rp =>
      rw [hs] at h1
      obtain ⟨heq, hpv, hokr⟩ := h1
      rw [Option.map_some, Option.bind_some, ih (textAdvance s d0 rp) hr hv hokr (by rw [← Nat.add_assoc s.chunkActual] at hfill; exact hfill),
        heq, List.append_assoc, valid_append _ _ hpv, chunkEnd_textAdvance]
      rfl

/-- any division of a chunk's bytes among data events, inside characters too, is indistinguishable from one
    event: both are rejected, or both leave the validator in the same state -/
theorem text_any_split (cfg : Cfg) (f : Bytes → Bool) (s : RState) (ds : List Bytes) (d : Bytes)
    (hr : s.cur.rule = .stringChunk) (hv : s.validator = .string) (hrem : RemOK s.utf8Rem)
    (hd : 0 < d.length) (hfill : s.chunkActual + totalLen ds + d.length = s.chunkExpected) :
    ((feed (env0 cfg f) s ds).bind (fun s' => stepS (env0 cfg f) s' (.arrayData d))).toOption
      = (stepS (env0 cfg f) s (.arrayData (ds.flatten ++ d))).toOption := by
  have hone := text_chunk cfg f [] (ds.flatten ++ d) (by rw [List.length_append]; omega) s hr hv hrem
    (by rw [List.length_append, length_flatten]; simpa [totalLen, Nat.add_assoc] using hfill)
  exact (text_chunk cfg f ds d hd s hr hv hrem hfill).trans hone.symm

end CE.Rules

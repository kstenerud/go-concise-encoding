import CE.Rules.Machine
import CE.Basic.Utf8Stream
/-
  What the operations of the validator model do when they succeed, each said once: the `_ok` lemmas
  turn `f s = .ok s'` into the conditions `f` checked and the state it built, so that no proof about the
  machine has to unfold `f` again; they stand in the order of CE/Rules/Machine.lean, after the inversions for
  `Except` and the association-list lemmas they are proved with.  Events and whole streams: CE/Rules/Runs.lean.
-/
namespace CE.Rules

theorem bind_ok {ε α β} {x : Except ε α} {f : α → Except ε β} {b : β} :
    (x >>= f) = .ok b ↔ ∃ a, x = .ok a ∧ f a = .ok b := by
  cases x <;> simp [bind, Except.bind]

theorem ok_inj {ε α} {a b : α} : (.ok a : Except ε α) = .ok b ↔ b = a := by
  simp [eq_comm]

theorem pure_ok {ε α} {a b : α} : (pure a : Except ε α) = .ok b ↔ b = a := ok_inj

theorem throw_ok {ε α} {e : ε} {a : α} : (throw e : Except ε α) = .ok a ↔ False := by
  simp [throw, throwThe, MonadExceptOf.throw]

theorem ite_ok {ε α} {c : Prop} [Decidable c] {x y : Except ε α} {b : α} :
    (if c then x else y) = .ok b ↔ c ∧ x = .ok b ∨ ¬ c ∧ y = .ok b := by
  split <;> simp [*]

theorem ite_error_ok {ε α} {c : Prop} [Decidable c] {e : ε} {x : Except ε α} {b : α} :
    (if c then .error e else x) = .ok b ↔ ¬ c ∧ x = .ok b := by
  split <;> simp [*]

theorem toOption_bind_bind {ε α β γ} (x : Except ε α) (g : α → Except ε β) (h : β → Except ε γ) :
    ((x.bind g).bind h).toOption = x.toOption.bind fun a => ((g a).bind h).toOption := by cases x <;> rfl

theorem lookup_cons (l : List (Bytes × DT)) (id x : Bytes) (dt : DT) :
    lookupForward ((id, dt) :: l) x = if id == x then some dt else lookupForward l x := by
  simp only [lookupForward, List.find?_cons]
  split <;> simp [*]

theorem lookup_filter (l : List (Bytes × DT)) (id x : Bytes) :
    lookupForward (l.filter (·.1 != id)) x = if id == x then none else lookupForward l x := by
  induction l with
  | nil => simp [lookupForward]
  | cons p l ih =>
    obtain ⟨k, v⟩ := p
    by_cases hk : k = id
    · subst hk
      simp only [List.filter_cons, bne_self_eq_false, Bool.false_eq_true, if_false, ih, lookup_cons]
      split <;> rfl
    · have hne : (k != id) = true := by simpa using hk
      simp only [List.filter_cons, hne, if_true, lookup_cons, ih]
      by_cases hx : id = x
      · subst hx; simp [hk]
      · simp [hx]

theorem lookup_eq_none {l : List (Bytes × DT)} {x : Bytes} : lookupForward l x = none ↔ x ∉ l.map (·.1) := by
  simp only [lookupForward, Option.map_eq_none_iff, List.find?_eq_none, beq_iff_eq, List.mem_map, not_exists, not_and]

theorem lookup_none_of_not_mem (l : List (Bytes × DT)) (x : Bytes) (h : x ∉ l.map (·.1)) : lookupForward l x = none :=
  lookup_eq_none.2 h

theorem lookup_mem (l : List (Bytes × DT)) (id : Bytes) (dt : DT) (h : lookupForward l id = some dt) : id ∈ l.map (·.1) :=
  Classical.not_not.1 fun hn => by rw [lookup_eq_none.2 hn] at h; cases h

theorem lookup_pair_mem (l : List (Bytes × DT)) (x : Bytes) (w : DT) (h : lookupForward l x = some w) : ∃ p ∈ l, p.2 = w := by
  simp only [lookupForward, Option.map_eq_some_iff] at h
  obtain ⟨p, hp, hpw⟩ := h
  exact ⟨p, List.mem_of_find?_eq_some hp, hpw⟩

theorem filter_of_lookup_none {l : List (Bytes × DT)} {id : Bytes} (h : lookupForward l id = none) :
    l.filter (·.1 != id) = l :=
  List.filter_eq_self.2 fun p hp => by
    simpa using fun he : p.1 = id => lookup_eq_none.1 h (List.mem_map.2 ⟨p, hp, he⟩)

theorem unstackRule_ok {s s' : RState} :
    unstackRule s = .ok s' ↔ ∃ e rest, s.stack = e :: rest ∧ s' = { s with cur := e, stack := rest } := by
  unfold unstackRule
  split
  · simp [*]
  · simp only [*, List.cons.injEq, ok_inj, and_assoc, exists_and_left, exists_eq_left']

theorem notifyNewObject_ok {cfg : Cfg} {s s' : RState} {b : Bool} (h : notifyNewObject cfg s b = .ok s') :
    s.objectCount + 1 ≤ cfg.maxObjectCount ∧
      ∃ c, s' = { s with cur := { s.cur with current := c }, objectCount := s.objectCount + 1 } := by
  unfold notifyNewObject at h
  -- `total` is the second statement (the limit on the total, then the new total); each branch of the first goes
  -- on with it
  extract_lets total at h
  have tail : ∀ c, total { s with cur := { s.cur with current := c } } = .ok s' →
      s.objectCount + 1 ≤ cfg.maxObjectCount ∧
        ∃ c, s' = { s with cur := { s.cur with current := c }, objectCount := s.objectCount + 1 } := by
    intro c ht
    obtain ⟨hn, ht⟩ := ite_error_ok.1 ht
    exact ⟨Nat.le_of_not_lt hn, c, ok_inj.1 ht⟩
  cases b
  · exact tail s.cur.current h
  · rw [if_pos rfl] at h
    split at h
    · split at h
      · cases h
      · exact tail _ h
    · exact tail _ h

theorem nno_rule (cfg : Cfg) (s s' : RState) (b : Bool) (h : notifyNewObject cfg s b = .ok s') : s'.cur.rule = s.cur.rule := by
  obtain ⟨-, c, rfl⟩ := notifyNewObject_ok h
  rfl

theorem beginContainer_ok {cfg : Cfg} {s s' : RState} {r : Rule} {dt : DT} {e : Option Nat} :
    beginContainer cfg s r dt e = .ok s' ↔
      s.depth + 1 ≤ cfg.maxContainerDepth ∧ s' = stackRule { s with depth := s.depth + 1 } r dt e := by
  simp only [beginContainer, bind_ok, ite_ok, throw_ok, pure_ok, false_and, and_false, false_or, Nat.not_lt,
    exists_const]

theorem notifyKey_ok {s s' : RState} {k : NormKey} :
    notifyKey s k = .ok s' ↔ k ∉ s.cur.keys ∧ s' = { s with cur := { s.cur with keys := k :: s.cur.keys } } := by
  simp only [notifyKey, ite_error_ok, ok_inj, List.contains_iff_mem]

theorem beginArrayAny_ok {cfg : Cfg} {s s' : RState} {t : ArrT} (h : beginArrayAny cfg s t = .ok s') :
    ∃ r dt v, s' = beginArray s t r dt cfg.maxArrayBytes v := by
  unfold beginArrayAny at h
  repeat' split at h
  all_goals cases h
  all_goals exact ⟨_, _, _, rfl⟩

theorem markObject_ok {cfg : Cfg} {s s' : RState} {dt : DT} :
    markObject cfg s dt = .ok s' ↔
      s.refCount + 1 ≤ cfg.maxLocalRefCount ∧ lookupForward s.marked s.markerID = none ∧
      (∀ m, lookupForward s.forward s.markerID = some m → m &&& dt ≠ 0) ∧
      s' = { s with refCount := s.refCount + 1, marked := (s.markerID, dt) :: s.marked,
                    forward := s.forward.filter (·.1 != s.markerID) } := by
  unfold markObject
  simp only [bind, Except.bind, pure, Except.pure, throw, throwThe, MonadExceptOf.throw, ite_error_ok,
    Option.isSome_iff_ne_none, ne_eq, Decidable.not_not]
  refine and_congr (by omega) (and_congr_right fun _ => ?_)
  cases hf : lookupForward s.forward s.markerID with
  | none => simp only [filter_of_lookup_none hf, ok_inj, reduceCtorEq, false_imp_iff, implies_true, true_and]
  | some a => simp only [ite_error_ok, ok_inj, Option.some.injEq, forall_eq']

theorem localReference_ok {s s' : RState} {id : Bytes} {m : DT} :
    localReference s id m = .ok s' ↔
      (∃ dt, lookupForward s.marked id = some dt ∧ dt &&& m ≠ 0 ∧ s' = s) ∨
      (lookupForward s.marked id = none ∧
        s' = { s with forward := (id, if (lookupForward s.forward id).getD 0 = 0 then m
                                      else (lookupForward s.forward id).getD 0 &&& m)
                                 :: s.forward.filter (·.1 != id) }) := by
  unfold localReference
  split
  · simp only [*, ite_error_ok, ok_inj, Option.some.injEq, exists_eq_left', reduceCtorEq, false_and, or_false]
  · simp only [*, ok_inj, reduceCtorEq, false_and, exists_false, true_and, false_or]

/-- the mask a reference leaves waiting (`localReference_ok`) is inside the reference's own mask -/
theorem narrowed_and (w a : DT) : (if w = 0 then a else w &&& a) &&& a = if w = 0 then a else w &&& a := by
  split
  · exact Nat.and_self _
  · rw [Nat.and_assoc, Nat.and_self]

open CE.Utf8 in
/-- `StreamStringData` is the raw step of the streaming UTF-8 validator (CE/Basic/Utf8Stream.lean) on the bytes
    held back; of the state it changes those bytes only -/
theorem streamStringData_eq (s : RState) (data : Bytes) :
    streamStringData s data =
      match sraw s.utf8Rem data with
      | none => .error .runtime
      | some (r, f, n) => .ok ({ s with utf8Rem := r }, f, n) := by
  unfold streamStringData
  extract_lets remLen second
  -- `second` is what follows the first statement: nothing if that said `done`, else `stage2`; proved once for both
  -- places the first statement hands over from
  have h2 : ∀ (s1 : RState) (f n : Bytes), second (s1, f, n, false) =
      match stage2 s1.utf8Rem f n with
      | none => .error .runtime
      | some (r, f, n) => .ok ({ s1 with utf8Rem := r }, f, n) := by
    intro s1 f n
    dsimp only [second, stage2]
    cases indexOfLastRuneStart n with
    | mk li complete =>
      cases complete
      · by_cases h4 : (n.drop li).length > 4
        · rw [if_pos h4, if_pos h4]
          rfl
        · rw [if_neg h4, if_neg h4]
          rfl
      · rfl
  have h1 : ∀ (s1 : RState) (f n : Bytes), second (s1, f, n, true) = .ok (s1, f, n) := fun _ _ _ => rfl
  clear_value second
  have hlen : remLen = s.utf8Rem.length := rfl
  clear_value remLen
  subst hlen
  unfold sraw stage1
  cases hrem : s.utf8Rem with
  | nil =>
    have h0 : ¬ ([] : Bytes).length > 0 := Nat.lt_irrefl 0
    rw [if_neg h0, if_neg h0]
    exact (h2 s [] data).trans (by rw [hrem]; rfl)
  | cons b0 t =>
    have hpos : (b0 :: t).length > 0 := Nat.succ_pos _
    rw [if_pos hpos, if_pos hpos]
    dsimp only
    by_cases hreq : runeByteCount b0 < (b0 :: t).length
    · rw [if_pos hreq, if_pos hreq]
      rfl
    · rw [if_neg hreq, if_neg hreq]
      by_cases hshort : (b0 :: t).length + min (runeByteCount b0 - (b0 :: t).length) data.length < runeByteCount b0
      · rw [if_pos hshort, if_pos hshort]
        exact h1 _ _ _
      · rw [if_neg hshort, if_neg hshort]
        -- named first: the unifier would try to evaluate `drop`
        generalize data.drop (min (runeByteCount b0 - (b0 :: t).length) data.length) = next
        exact h2 { s with utf8Rem := [] } _ next

/-- the state a statement hands on, whether it goes on, returns or calls -/
def Step.state : Step → RState
  | .next s _ => s | .ret s => s | .call s _ _ _ _ => s

/-- whatever the branch: depth was not 0, and the result is `unstackRule` of `s` one level up, with some
    record-type table -/
theorem actEndContainer_ok {cfg : Cfg} {notify : Bool} {s : RState} {args : Args} {st : Step}
    (h : actEndContainer cfg notify s args = .ok st) :
    s.depth ≠ 0 ∧ ∃ rts, unstackRule { s with recordTypes := rts, depth := s.depth - 1 } = .ok st.state := by
  simp only [actEndContainer, bind_ok, throw_ok, ite_ok, false_and, and_false, exists_false, false_or] at h
  refine ⟨h.1, ?_⟩
  replace h := h.2
  split at h <;> simp only [bind_ok, pure_ok, throw_ok, ite_ok, false_and, and_false, exists_false, false_or] at h
  · rcases h.2 with ⟨-, _, ⟨-, rfl⟩, v, hv, h⟩ | ⟨-, _, rfl, v, hv, h⟩ <;>
      rcases h with ⟨-, rfl⟩ | ⟨-, rfl⟩ <;> exact ⟨_, hv⟩
  · rcases h with ⟨-, _, ⟨-, rfl⟩, v, hv, h⟩ | ⟨-, _, rfl, v, hv, h⟩ <;>
      rcases h with ⟨-, rfl⟩ | ⟨-, rfl⟩ <;> exact ⟨_, hv⟩

theorem validateIdentifier_ok {cfg : Cfg} {safe : Bytes → Bool} {id : Bytes} :
    validateIdentifier cfg safe id = .ok () ↔ (id.length ≠ 0 ∧ id.length ≤ cfg.maxIdLength ∧ safe id = true) := by
  simp only [validateIdentifier, ite_error_ok, Nat.not_lt, Bool.not_eq_true', Bool.not_eq_false, and_true, ne_eq]

theorem rule_mem_all (r : Rule) : r ∈ Rule.all := by cases r <;> decide

theorem method_mem_all (m : Method) : m ∈ Method.all := by cases m <;> decide

theorem call_wrongType {tbl : RuleTable} {cfg : Cfg} {s : RState} {m : Method} {args : Args}
    (h : tbl s.cur.rule m = [.wrongType]) : call tbl cfg s m args = .error .wrongType := by
  -- `simp` with `execAct` derives the equations of that forty-alternative `match` here, once: the modules
  -- downstream that unfold `execAct` find them made
  simp [call, h, fuel0, runActs, execAct]

end CE.Rules

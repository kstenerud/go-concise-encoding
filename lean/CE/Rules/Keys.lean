import CE.Rules.Effect
/-
  C12 over whole documents (`run_keys`): entering a container starts an empty key list, leaving one restores the
  enclosing list, and a key is added only after `NotifyKey` has found it absent.
-/
namespace CE.Rules

/-- the keys registered for every open container are pairwise distinct -/
def KInv (s : RState) : Prop := s.cur.keys.Nodup ∧ ∀ e ∈ s.stack, e.keys.Nodup

theorem Effect.keys {cfg : Cfg} {s s' : RState} (h : Effect cfg s s') (hk : KInv s) : KInv s' := by
  cases h with
  | quiet _ _ _ hc hs => exact ⟨hc ▸ hk.1, hs ▸ hk.2⟩
  | mark dt h => obtain ⟨-, -, -, rfl⟩ := markObject_ok.1 h; exact hk
  | ref id m _ h => rcases localReference_ok.1 h with ⟨-, -, -, rfl⟩ | ⟨-, rfl⟩ <;> exact hk
  | key k h => obtain ⟨hn, rfl⟩ := notifyKey_ok.1 h; exact ⟨List.nodup_cons.2 ⟨hn, hk.1⟩, hk.2⟩
  | push _ _ _ hc hs => exact ⟨hc ▸ List.nodup_nil, hs ▸ List.forall_mem_cons.2 ⟨hk.1, hk.2⟩⟩
  | pop _ _ _ hs => exact List.forall_mem_cons.1 (hs ▸ hk.2)

theorem KInv.init : KInv RState.init := ⟨List.nodup_nil, fun _ h => nomatch h⟩

theorem run_keys (env : Env) : ∀ (evs : List Ev) (s : RState) (i : Nat), KInv s → KInv (run env s evs i).2.2 :=
  run_inv Effect.keys fun hn hk => by obtain ⟨-, c, rfl⟩ := notifyNewObject_ok hn; exact hk

end CE.Rules

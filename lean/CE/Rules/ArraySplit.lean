import CE.Rules.Basics
import CE.Rules.Table
/-
  One data event in a binary chunk on the rule machine: the outcome is a function of the state and of the
  number of bytes alone (`stepS_arrayChunk`).
-/
namespace CE.Rules

def env0 (cfg : Cfg) (f : Bytes → Bool) : Env := { tbl := Model.ruleTable, cfg := cfg, identSafe := f }

/-- state after one event, dropping what is forwarded -/
def stepS (env : Env) (s : RState) (e : Ev) : M RState := (step env s e).map (·.1)

def feed (env : Env) : RState → List Bytes → M RState
  | s, [] => .ok s
  | s, d :: ds => (stepS env s (.arrayData d)).bind (fun s' => feed env s' ds)

theorem arrayChunk_table :
    Model.ruleTable .arrayChunk .onArrayData = [.markCompletedChunk, .endChunkIfComplete .any] := rfl

theorem stepS_arrayData (env : Env) (s : RState) (d : Bytes) :
    stepS env s (.arrayData d) = call env.tbl env.cfg s .onArrayData { data := d } := by
  simp only [stepS, step.eq_def, bind, Except.bind, pure, Except.pure]
  cases call env.tbl env.cfg s .onArrayData { data := d } <;> rfl

/-- The last statement of a chunk row at a complete chunk: the next chunk is awaited under rule `next`, or the
    array ends and the parent rule is told.  `fuel` is what the statements of the row leave of `fuel0`. -/
def chunkDone (cfg : Cfg) (fuel : Nat) (next : Rule) (s : RState) : M RState :=
  if s.moreChunks then .ok (changeRule s next)
  else (unstackRule s).bind fun s1 =>
    runActs Model.ruleTable cfg fuel (Model.ruleTable s1.cur.rule .onChildContainerEnded) s1 { cType := s.cur.dataType }

/-- a statement that goes on to the next: the rest of the row runs on what it hands over -/
theorem runActs_next {tbl : RuleTable} {cfg : Cfg} {fuel : Nat} {a : Act} {rest : List Act} {s s' : RState}
    {args args' : Args} (h : execAct cfg a s args = .ok (.next s' args')) :
    runActs tbl cfg (fuel + 1) (a :: rest) s args = runActs tbl cfg fuel rest s' args' := by
  rw [runActs, h]

theorem runActs_error {tbl : RuleTable} {cfg : Cfg} {fuel : Nat} {a : Act} {rest : List Act} {s : RState}
    {args : Args} {e : RErr} (h : execAct cfg a s args = .error e) :
    runActs tbl cfg (fuel + 1) (a :: rest) s args = .error e := by
  rw [runActs, h]

theorem runActs_endChunk_open (cfg : Cfg) (fuel : Nat) (k : ChunkKind) (s : RState) (args : Args)
    (hc : s.chunkActual ≠ s.chunkExpected) :
    runActs Model.ruleTable cfg (fuel + 1) [.endChunkIfComplete k] s args = .ok s := by
  simp only [runActs, execAct, actEndChunkIfComplete, hc, if_false]

/-- a text chunk must not end inside a character -/
theorem runActs_endChunk_rem (cfg : Cfg) (fuel : Nat) (s : RState) (args : Args)
    (hc : s.chunkActual = s.chunkExpected) (hrem : s.utf8Rem ≠ []) :
    runActs Model.ruleTable cfg (fuel + 1) [.endChunkIfComplete .string] s args = .error .utf8 := by
  have : s.utf8Rem.length > 0 := List.length_pos_iff.mpr hrem
  simp only [runActs, execAct, actEndChunkIfComplete, hc, if_true, this]

/-- `hk`: binary chunks never hold bytes back -/
theorem runActs_endChunk (cfg : Cfg) (fuel : Nat) (k : ChunkKind) (s : RState) (args : Args)
    (hc : s.chunkActual = s.chunkExpected) (hk : k = .any ∨ s.utf8Rem = []) :
    runActs Model.ruleTable cfg (fuel + 1) [.endChunkIfComplete k] s args =
      chunkDone cfg fuel (if k = .any then .array else .string) s := by
  have hact : execAct cfg (.endChunkIfComplete k) s args =
      if s.moreChunks then .ok (.next (changeRule s (if k = .any then .array else .string)) args)
      else leaveArray s args false := by
    refine (if_pos hc).trans ?_
    rcases hk with rfl | hk
    · rfl
    · cases k <;> rw [hk] <;> rfl
  rw [runActs, hact, chunkDone]
  cases s.moreChunks
  · -- the array ends: the parent rule's `onChildContainerEnded` runs on what is left of the fuel
    rw [if_neg Bool.false_ne_true, if_neg Bool.false_ne_true, leaveArray]
    cases unstackRule s with
    | error e => rfl
    | ok v =>
      dsimp only [bind, Except.bind, pure, Except.pure]
      cases runActs Model.ruleTable cfg _ _ v _ with
      | error e => rfl
      | ok w =>
        dsimp only
        rw [if_neg Bool.false_ne_true, runActs]
  · rw [if_pos rfl, if_pos rfl]
    dsimp only
    rw [runActs]

/-- 2 is the length of the row `arrayChunk_table` -/
theorem stepS_arrayChunk (cfg : Cfg) (f : Bytes → Bool) (s : RState) (d : Bytes) (hr : s.cur.rule = .arrayChunk) :
    stepS (env0 cfg f) s (.arrayData d) =
      if s.chunkActual + d.length > s.chunkExpected then .error .chunkOverflow
      else if s.chunkActual + d.length = s.chunkExpected then
        chunkDone cfg (fuel0 - 2) .array { s with chunkActual := s.chunkActual + d.length }
      else .ok { s with chunkActual := s.chunkActual + d.length } := by
  rw [stepS_arrayData, call, env0, hr]
  dsimp only
  rw [arrayChunk_table, fuel0]
  by_cases hov : s.chunkActual + d.length > s.chunkExpected
  · rw [if_pos hov]
    exact runActs_error (if_pos hov)
  · have h1 : execAct cfg .markCompletedChunk s { data := d } =
        .ok (.next { s with chunkActual := s.chunkActual + d.length } { data := d }) := if_neg hov
    rw [if_neg hov, runActs_next h1]
    by_cases hc : s.chunkActual + d.length = s.chunkExpected
    · rw [runActs_endChunk cfg _ .any _ _ hc (.inl rfl), if_pos hc]; rfl
    · rw [runActs_endChunk_open cfg _ .any _ _ hc, if_neg hc]

def totalLen (ds : List Bytes) : Nat := (ds.map List.length).sum

theorem totalLen_cons (d : Bytes) (ds : List Bytes) : totalLen (d :: ds) = d.length + totalLen ds := by
  simp [totalLen]

theorem length_flatten (ds : List Bytes) : ds.flatten.length = totalLen ds := by
  simp [totalLen, List.length_flatten]

end CE.Rules

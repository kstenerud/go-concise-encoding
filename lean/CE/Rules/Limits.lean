import CE.Rules.Effect
/-
  C14 over whole documents.  Depth, marker count and marker counter are an invariant of the effects (`run_lim`).
  The object counter: no statement of any rule method touches it (`Effect.count`); only the receiver's
  NotifyNewObject does, once per object event (`step_ok`), so it is the number of object events of the stream
  (`Runs.count`; that it stays within its maximum is one more invariant of the effects, `Runs.count_le`), which
  is the `objects` component of the structural measure the harness computes independently (`measure_objects`).
-/
namespace CE.Rules

/-- the limits the validator keeps while it runs: open containers and registered markers are within
    their configured maxima, and the marker counter is the number of registered markers -/
def LInv (cfg : Cfg) (s : RState) : Prop :=
  s.depth ≤ cfg.maxContainerDepth ∧ s.refCount ≤ cfg.maxLocalRefCount ∧ s.refCount = s.marked.length

theorem Effect.limits {cfg : Cfg} {s s' : RState} (h : Effect cfg s s') (hk : LInv cfg s) : LInv cfg s' := by
  unfold LInv at *
  cases h with
  | quiet hr hc hd =>
    rw [hr.1, hc, hd]
    exact hk
  | push hr hc hd =>
    rw [hr.1, hc]
    -- the depth is as it was, or one more and checked
    exact ⟨hd.elim (fun h => h ▸ hk.1) (fun h => h.2), hk.2⟩
  | pop hr hc hd =>
    rw [hr.1, hc]
    exact ⟨hd.elim (fun h => h ▸ hk.1) (fun h => Nat.le_of_succ_le (h ▸ hk.1 : s'.depth + 1 ≤ _)), hk.2⟩
  | mark dt h =>
    obtain ⟨hl, -, -, rfl⟩ := markObject_ok.1 h
    exact ⟨hk.1, hl, congrArg (· + 1) hk.2.2⟩
  | ref id m _ h => rcases localReference_ok.1 h with ⟨-, -, -, rfl⟩ | ⟨-, rfl⟩ <;> exact hk
  | key k h => obtain ⟨-, rfl⟩ := notifyKey_ok.1 h; exact hk

theorem LInv.init (cfg : Cfg) : LInv cfg RState.init := ⟨Nat.zero_le _, Nat.zero_le _, rfl⟩

theorem run_lim (env : Env) : ∀ (evs : List Ev) (s : RState) (i : Nat), LInv env.cfg s → LInv env.cfg (run env s evs i).2.2 :=
  run_inv Effect.limits fun hn hk => by obtain ⟨-, c, rfl⟩ := notifyNewObject_ok hn; exact hk

theorem Effect.count {cfg : Cfg} {s s' : RState} (h : Effect cfg s s') : s'.objectCount = s.objectCount := by
  rcases h.kinds with hs | ⟨dt, hm⟩ | ⟨id, m, -, hl⟩
  · exact hs.2.2
  · obtain ⟨-, -, -, rfl⟩ := markObject_ok.1 hm; rfl
  · rcases localReference_ok.1 hl with ⟨-, -, -, rfl⟩ | ⟨-, rfl⟩ <;> rfl

theorem step_count {env : Env} {s : RState} {e : Ev} {r : RState × List Ev} (h : step env s e = .ok r) :
    r.1.objectCount = s.objectCount + (if countsAsObject e then 1 else 0) := by
  obtain ⟨s1, h1, h2, -⟩ := step_ok h
  rw [call_rel (R := fun s s' => s'.objectCount = s.objectCount) (fun _ => rfl) (fun f g => g.trans f) Effect.count h2]
  unfold noted at h1
  split at h1 <;> rename_i ho <;> rw [ho]
  · obtain ⟨-, c, rfl⟩ := notifyNewObject_ok h1; rfl
  · exact pure_ok.1 h1 ▸ rfl

def objectsIn (evs : List Ev) : Nat := (evs.filter countsAsObject).length

theorem objectsIn_cons (e : Ev) (es : List Ev) :
    objectsIn (e :: es) = (if countsAsObject e then 1 else 0) + objectsIn es := by
  unfold objectsIn; simp only [List.filter_cons]; split <;> simp <;> omega

theorem Runs.count {env : Env} {s s' : RState} {evs : List Ev} (h : Runs env s evs s') :
    s'.objectCount = s.objectCount + objectsIn evs := by
  induction h with
  | nil s => rfl
  | cons hs _ ih => rw [ih, step_count hs, objectsIn_cons, Nat.add_assoc]

/-- the object limit is one more invariant: no statement touches the counter, `NotifyNewObject` checks it -/
theorem Runs.count_le {env : Env} {s s' : RState} {evs : List Ev} (h : Runs env s evs s')
    (hle : s.objectCount ≤ env.cfg.maxObjectCount) : s'.objectCount ≤ env.cfg.maxObjectCount :=
  Runs.rel (R := fun s s' => s.objectCount ≤ env.cfg.maxObjectCount → s'.objectCount ≤ env.cfg.maxObjectCount)
    (fun _ h => h) (fun f g h => g (f h)) (fun he h => Effect.count he ▸ h)
    (fun hn _ => by obtain ⟨hle, c, rfl⟩ := notifyNewObject_ok hn; exact hle) h hle

theorem run_count (env : Env) : ∀ (evs : List Ev) (s : RState) (i : Nat), (run env s evs i).2.1 = none →
    s.objectCount ≤ env.cfg.maxObjectCount →
    (run env s evs i).2.2.objectCount = s.objectCount + objectsIn evs ∧
    (run env s evs i).2.2.objectCount ≤ env.cfg.maxObjectCount := by
  intro evs s i h hle
  obtain ⟨sf, hr, he⟩ := run_ok h
  rw [he]
  exact ⟨hr.count, hr.count_le hle⟩

open CE.Spec in
theorem measure_objects : ∀ (evs : List Ev) (d arr bits : Nat) (u : Usage),
    (measureFrom evs d arr bits u).objects = u.objects + objectsIn evs := by
  intro evs
  induction evs with
  | nil => exact fun _ _ _ _ => rfl
  | cons e es ih =>
    intro d arr bits u
    rw [objectsIn_cons]
    -- every event hands on to the rest of the stream, with the counter as it was or one more
    cases e <;> refine (ih _ _ _ _).trans ?_ <;>
      first | exact Nat.add_assoc _ _ _ | exact congrArg _ (Nat.zero_add _).symm

end CE.Rules

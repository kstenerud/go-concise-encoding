import CE.Io.Reader
/-
  M-WRITER: the destination of the encoders.  Every Write result is threaded through `Except`
  exactly as cbe.Writer.writeBytes / cte.Writer turn a write error into a panic that the
  marshal/encode entry points recover into the returned error.
-/
namespace CE.Io

/-- a writer that accepts `cap` bytes in total and then fails -/
def writeChunk (cap : Nat) (written : Nat) (chunk : Bytes) : Except IOErr Nat :=
  if written + chunk.length > cap then .error .fault else .ok (written + chunk.length)

/-- the encoder writes its output as a sequence of chunks (one per Write call) -/
def writeAll (cap : Nat) : Nat → List Bytes → Except IOErr Nat
  | written, [] => .ok written
  | written, c :: cs =>
    match writeChunk cap written c with
    | .error e => .error e
    | .ok w => writeAll cap w cs

def totalLen (cs : List Bytes) : Nat := (cs.map List.length).sum

theorem totalLen_cons (c : Bytes) (cs : List Bytes) : totalLen (c :: cs) = c.length + totalLen cs := by
  simp only [totalLen, List.map_cons, List.sum_cons]

/-- the hypothesis excludes `written > cap` with nothing left to write, where `writeAll` returns
    `.ok written` without looking at `cap` -/
theorem writeAll_eq (cap : Nat) : ∀ (cs : List Bytes) (written : Nat), written ≤ cap ∨ cs ≠ [] →
    writeAll cap written cs =
      if written + totalLen cs ≤ cap then .ok (written + totalLen cs) else .error .fault := by
  intro cs
  induction cs with
  | nil =>
    intro w h
    have hw : w ≤ cap := h.resolve_right (fun h => h rfl)
    simp [writeAll, totalLen, hw]
  | cons c cs ih =>
    intro w _
    rw [totalLen_cons, ← Nat.add_assoc]
    by_cases hc : w + c.length > cap
    · simp only [writeAll, writeChunk, if_pos hc]
      rw [if_neg (by omega)]
    · simp only [writeAll, writeChunk, if_neg hc]
      exact ih (w + c.length) (.inl (by omega))

/-- whatever the division into Write calls -/
theorem write_fault_reported (cap : Nat) :
    ∀ (cs : List Bytes) (written : Nat), written ≤ cap → written + totalLen cs > cap →
      writeAll cap written cs = .error .fault := by
  intro cs w hw h
  rw [writeAll_eq cap cs w (.inl hw), if_neg (by omega)]

theorem write_success_complete (cap : Nat) :
    ∀ (cs : List Bytes) (written n : Nat), writeAll cap written cs = .ok n → n = written + totalLen cs ∧ n ≤ cap ∨ cs = [] := by
  intro cs w n h
  by_cases hcs : cs = []
  · exact .inr hcs
  · rw [writeAll_eq cap cs w (.inr hcs)] at h
    split at h
    · cases h; exact .inl ⟨rfl, by assumption⟩
    · cases h

end CE.Io

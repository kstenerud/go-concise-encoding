import CE.Io.Reader
/-
  M-READER under any delivery schedule: the adapter hands over exactly the bytes of the document,
  then end-of-file (C28) or the failure (C29).  Both come from what a source denotes, the bytes
  still to come and the status after them (`Says`, `Yields`): one adapter read
  (`Adapter.read_yields`) takes a piece of those bytes and leaves a source that denotes the rest.
-/
namespace CE.Io

/-- what the adapter tolerates: fewer than 100 empty reads in a row.  100 is Go's
    `maxConsecutiveEmptyReads` (cbe/decoder_reader.go) and must equal the fuel of `Adapter.read`. -/
def Legal (sched : Nat → Nat) : Prop := ∀ i, ∃ j, j < 100 ∧ sched (i + j) ≠ 0

/-- what a source still has to say: the bytes `out`, then the status `fin` -/
inductive Says : Src → Bytes → IOErr → Prop
  | eof (s : Src) : s.failIn = none → Says s s.data .eof
  | fault (s : Src) (k : Nat) : s.failIn = some k → k ≤ s.data.length → Says s (s.data.take k) .fault

/-- the adapter will deliver exactly `out` and then report `fin` -/
structure Yields (a : Adapter) (out : Bytes) (fin : IOErr) : Prop where
  says : Says a.src out fin
  legal : Legal a.src.sched
  err : a.err = none ∨ (a.err = some fin ∧ out = [])

/-- `Yields a bs .eof` spelled out; C28 `full_read_delivery_irrelevant` is stated with it -/
structure Good (a : Adapter) (bs : Bytes) : Prop where
  data : a.src.data = bs
  nofail : a.src.failIn = none
  legal : Legal a.src.sched
  err : a.err = none ∨ (a.err = some .eof ∧ bs = [])

theorem good_iff_yields (a : Adapter) (bs : Bytes) : Good a bs ↔ Yields a bs .eof := by
  constructor
  · rintro ⟨hd, hf, hl, he⟩
    exact ⟨hd ▸ .eof a.src hf, hl, he⟩
  · rintro ⟨hs, hl, he⟩
    cases hs with
    | eof hf => exact ⟨rfl, hf, hl, he⟩

/-- the last conjunct is what progress rests on: a read that is empty and carries no status happens
    only where the schedule offers 0 -/
theorem Src.read_says (s : Src) (out : Bytes) (fin : IOErr) (want : Nat) (hw : 0 < want)
    (h : Says s out fin) :
    ∃ n e s', s.read want = ((out.take n, e), s') ∧ n ≤ want ∧ n ≤ out.length ∧
      Says s' (out.drop n) fin ∧ s'.sched = s.sched ∧ s'.calls = s.calls + 1 ∧
      (e = none ∨ e = some fin ∧ out.drop n = []) ∧
      (n = 0 → e = none → s.sched s.calls = 0) := by
  cases h with
  | eof hf =>
    by_cases hk : s.sched s.calls = 0
    · exact ⟨0, none, { s with calls := s.calls + 1 }, by simp [Src.read, hf, hk], Nat.zero_le _, Nat.zero_le _, .eof _ hf, rfl, rfl, .inl rfl,
        fun _ _ => hk⟩
    by_cases hd : s.data.length = 0
    · exact ⟨0, some .eof, { s with calls := s.calls + 1 }, by simp [Src.read, hf, hk, hd], Nat.zero_le _, Nat.zero_le _, .eof _ hf, rfl, rfl,
        .inr ⟨rfl, List.eq_nil_of_length_eq_zero hd⟩, nofun⟩
    generalize hn : min (min (s.sched s.calls) want) s.data.length = n
    have hnw : n ≤ want := hn ▸ Nat.le_trans (Nat.min_le_left ..) (Nat.min_le_right ..)
    have hnl : n ≤ s.data.length := hn ▸ Nat.min_le_right ..
    have hn0 : n ≠ 0 := hn ▸ Nat.ne_of_gt
      (Nat.lt_min.2 ⟨Nat.lt_min.2 ⟨Nat.pos_of_ne_zero hk, hw⟩, Nat.pos_of_ne_zero hd⟩)
    refine ⟨n, if s.data.length - n = 0 ∧ s.eofWithData then some .eof else none,
      { s with calls := s.calls + 1, data := s.data.drop n }, ?_, hnw, hnl, .eof _ hf, rfl, rfl, ?_,
      fun h => absurd h hn0⟩
    · simp only [Src.read, hf, hk, hd, hn, if_false, Option.map_none, List.length_drop, reduceCtorEq,
        false_and, and_true]
      split <;> rfl
    · split
      · next h => exact .inr ⟨rfl, List.eq_nil_of_length_eq_zero (List.length_drop ▸ h.1)⟩
      · exact .inl rfl
  | fault k hf hle =>
    cases k with
    | zero => exact ⟨0, some .fault, { s with calls := s.calls + 1 }, by simp [Src.read, hf], Nat.zero_le _, Nat.zero_le _, .fault _ 0 hf hle, rfl, rfl,
        .inr ⟨rfl, rfl⟩, nofun⟩
    | succ k =>
      by_cases hk : s.sched s.calls = 0
      · exact ⟨0, none, { s with calls := s.calls + 1 }, by simp [Src.read, hf, hk], Nat.zero_le _, Nat.zero_le _, .fault _ _ hf hle, rfl, rfl, .inl rfl,
        fun _ _ => hk⟩
      have hav : min (k + 1) s.data.length = k + 1 := Nat.min_eq_left hle
      generalize hn : min (min (s.sched s.calls) want) (k + 1) = n
      have hnw : n ≤ want := hn ▸ Nat.le_trans (Nat.min_le_left ..) (Nat.min_le_right ..)
      have hnk : n ≤ k + 1 := hn ▸ Nat.min_le_right ..
      have hn0 : n ≠ 0 := hn ▸ Nat.ne_of_gt (Nat.lt_min.2 ⟨Nat.lt_min.2 ⟨Nat.pos_of_ne_zero hk, hw⟩, k.succ_pos⟩)
      refine ⟨n, if k + 1 - n = 0 ∧ s.failWithData then some .fault else none,
        { s with calls := s.calls + 1, data := s.data.drop n, failIn := some (k + 1 - n) }, ?_, hnw,
        by rw [List.length_take, hav]; exact hnk, ?_, rfl, rfl, ?_, fun h => absurd h hn0⟩
      · simp only [Src.read, hf, hk, hav, hn, if_false, Option.map_some, Nat.succ_ne_zero, reduceCtorEq,
          and_false, Option.some.injEq, List.take_take, Nat.min_eq_left hnk]
        split <;> rfl
      · rw [List.drop_take]
        exact .fault _ _ rfl (by rw [List.length_drop]; exact Nat.sub_le_sub_right hle n)
      · split
        · next h => exact .inr ⟨rfl, List.eq_nil_of_length_eq_zero (by
            rw [List.length_drop, List.length_take, hav]; exact h.1)⟩
        · exact .inl rfl

/-- the third hypothesis links `Legal` to the adapter's fuel: one of the next `fuel` calls is offered
    something -/
theorem readAux_yields (want : Nat) (hw : 0 < want) (fin : IOErr) :
    ∀ (fuel : Nat) (s : Src) (out : Bytes), Says s out fin → Legal s.sched →
      (∃ j, j < fuel ∧ s.sched (s.calls + j) ≠ 0) →
      (out = [] ∧ ∃ a', Adapter.readAux want fuel s = (([], some fin), a') ∧ Yields a' [] fin) ∨
      (∃ n a', 1 ≤ n ∧ n ≤ want ∧ n ≤ out.length ∧
        Adapter.readAux want fuel s = ((out.take n, none), a') ∧ Yields a' (out.drop n) fin) := by
  intro fuel
  induction fuel with
  | zero => intro s _ _ _ ⟨j, hj, _⟩; omega
  | succ fuel ih =>
    intro s out hs hl ⟨j, hj, hjs⟩
    obtain ⟨n, e, s', hr, h1, h2, hs', hsch, hc, he, hprog⟩ := Src.read_says s out fin want hw hs
    have hl' : Legal s'.sched := hsch ▸ hl
    cases n with
    | succ n =>
      refine .inr ⟨n + 1, ⟨s', e⟩, Nat.succ_pos n, h1, h2, ?_, hs', hl', he⟩
      have hlen : (out.take (n + 1)).length > 0 := by rw [List.length_take_of_le h2]; exact Nat.succ_pos n
      simp only [Adapter.readAux, hr, if_pos hlen]
    | zero =>
      rcases he with rfl | ⟨rfl, h0⟩
      · have hk := hprog rfl rfl
        cases j with
        | zero => exact absurd hk hjs
        | succ j =>
          have := ih s' out hs' hl' ⟨j, Nat.lt_of_succ_lt_succ hj, by
            rw [hsch, hc, Nat.add_assoc, Nat.add_comm 1 j]; exact hjs⟩
          simpa only [Adapter.readAux, hr, List.take_zero, List.length_nil, Nat.lt_irrefl, if_false] using this
      · exact .inl ⟨h0, ⟨s', some fin⟩, by simp [Adapter.readAux, hr], h0 ▸ hs', hl', .inr ⟨rfl, rfl⟩⟩

theorem Adapter.read_yields (a : Adapter) (out : Bytes) (fin : IOErr) (want : Nat) (hw : 0 < want)
    (h : Yields a out fin) :
    (out = [] ∧ ∃ a', a.read want = (([], some fin), a') ∧ Yields a' [] fin) ∨
    (∃ n a', 1 ≤ n ∧ n ≤ want ∧ n ≤ out.length ∧ a.read want = ((out.take n, none), a') ∧
      Yields a' (out.drop n) fin) := by
  rcases h.err with he | ⟨he, rfl⟩
  · simp only [Adapter.read, he]
    exact readAux_yields want hw fin 100 a.src out h.says h.legal (h.legal a.src.calls)
  · exact .inl ⟨rfl, a, by simp [Adapter.read, he], h⟩

theorem readByteOrEOF_yields (a : Adapter) (out : Bytes) (fin : IOErr) (h : Yields a out fin) :
    match out with
    | [] => if fin = .eof then ∃ a', readByteOrEOF a = .ok (none, a') else readByteOrEOF a = .error fin
    | b :: rest => ∃ a', readByteOrEOF a = .ok (some b, a') ∧ Yields a' rest fin := by
  rcases Adapter.read_yields a out fin 1 (Nat.le_refl 1) h with ⟨rfl, a', hr, _⟩ | ⟨n, a', h1, h2, h3, hr, h'⟩
  · cases fin <;> simp [readByteOrEOF, hr]
  · obtain rfl : n = 1 := Nat.le_antisymm h2 h1
    cases out with
    | nil => cases h3
    | cons b rest => exact ⟨a', by simp [readByteOrEOF, hr], h'⟩

theorem readAll_yields : ∀ (out : Bytes) (fuel : Nat) (a : Adapter) (fin : IOErr), Yields a out fin →
    out.length < fuel → readAll fuel a = (out, if fin = .eof then none else some fin)
  | _, 0, _, _, _, hf => nomatch hf
  | [], fuel + 1, a, fin, h, _ => by
    have := readByteOrEOF_yields a [] fin h
    cases fin with
    | eof => obtain ⟨a', hr⟩ := this; simp [readAll, hr]
    | _ => simp [readAll, show readByteOrEOF a = .error _ from this]
  | b :: rest, fuel + 1, a, fin, h, hf => by
    obtain ⟨a', hr, h'⟩ := readByteOrEOF_yields a (b :: rest) fin h
    simp [readAll, hr, readAll_yields rest fuel a' fin h' (Nat.lt_of_succ_lt_succ hf)]

theorem readFullAux_yields (fin : IOErr) :
    ∀ (fuel need : Nat) (a : Adapter) (out acc : Bytes), Yields a out fin → need < fuel →
      if need ≤ out.length then
        ∃ a', readFullAux fuel need a acc = .ok (acc ++ out.take need, a') ∧ Yields a' (out.drop need) fin
      else readFullAux fuel need a acc = .error fin := by
  intro fuel
  induction fuel with
  | zero => intro need _ _ _ _ hf; omega
  | succ fuel ih =>
    intro need a out acc h hf
    cases need with
    | zero => exact ⟨a, by simp [readFullAux], h⟩
    | succ m =>
      rcases Adapter.read_yields a out fin (m + 1) (by omega) h with ⟨rfl, a', hr, _⟩ | ⟨n, a', h1, h2, h3, hr, h'⟩
      · simp [readFullAux, hr]
      · -- `k` is what is still needed after this read
        obtain ⟨k, hk⟩ := Nat.exists_eq_add_of_le h2
        have hkf : k < fuel := Nat.lt_of_lt_of_le (hk ▸ Nat.lt_add_of_pos_left h1) (Nat.le_of_lt_succ hf)
        have := ih k a' (out.drop n) (acc ++ out.take n) h' hkf
        simp only [readFullAux, hr, List.length_take_of_le h3]
        rw [hk, Nat.add_sub_cancel_left]
        rw [List.length_drop, List.append_assoc, ← List.take_add, List.drop_drop] at this
        simp only [Nat.le_sub_iff_add_le' h3] at this
        exact this

theorem readFull_yields (a : Adapter) (out : Bytes) (fin : IOErr) (n : Nat) (h : Yields a out fin) :
    if n ≤ out.length then ∃ a', readFull a n = .ok (out.take n, a') ∧ Yields a' (out.drop n) fin
    else readFull a n = .error fin := by
  simpa only [readFull, List.nil_append] using readFullAux_yields fin (n + 1) n a out [] h (by omega)

theorem yields_document (bs : Bytes) (sched : Nat → Nat) (flag : Bool) (hl : Legal sched) :
    Yields { src := { data := bs, sched := sched, eofWithData := flag } } bs .eof :=
  ⟨.eof _ rfl, hl, .inl rfl⟩

theorem yields_failing (bs : Bytes) (k : Nat) (hk : k ≤ bs.length) (sched : Nat → Nat) (withData : Bool)
    (hl : Legal sched) :
    Yields { src := { data := bs, sched := sched, failIn := some k, failWithData := withData } } (bs.take k) .fault :=
  ⟨.fault _ k rfl hk, hl, .inl rfl⟩

end CE.Io

import CE.Cbe.Fine
/-
  The CBE decoder model reads a prefix code: whatever it has delivered for some input, it delivers the same (and
  possibly more) when bytes are appended, so the events delivered for a truncated document are a prefix of the
  events delivered for the whole document (C09), and no input makes it stop for lack of fuel (C07).  The facts
  about one token are those of CE/Cbe/Fine.lean.  A whole run is a reader too (`asRes`), so the same relation
  `Fine` goes through the main loop (`fine_decodeLoop`: a token, then the loop, `Fine.andThen`) and the document
  header (`fine_decode`); what it says of two runs is `Fine.run`.
-/
namespace CE.Cbe

theorem ext_decodeChunks (bits : Nat) (y : Bytes) : ∀ (f1 f2 : Nat) (x : Bytes), x.length < f1 → (x ++ y).length < f2 →
    Ext y (decodeChunks bits f1 x) (decodeChunks bits f2 (x ++ y)) :=
  fun f1 f2 x h1 h2 => (fine_decodeChunks bits y f1 f2 x h1 h2).toExt

/-- `hx` is not needed: on the empty input the decoder reports "input ended" having delivered nothing, which
    anything extends (`Fine.eof_nil`) -/
theorem ext_decodeOne (x y : Bytes) (hx : x ≠ []) : Ext y (decodeOne x) (decodeOne (x ++ y)) := by
  cases x with
  | nil => exact (hx rfl).elim
  | cons b r => exact (fine_decodeOne b r y).toExt

/-- what a run has delivered, not counting the end-of-document event the decoder adds when the input
    is used up -/
def delivered (r : List Ev × Option DecErr) : List Ev := if r.2 = none then r.1.dropLast else r.1

/-- a run seen as a reader that never succeeds: it stops for an error, or because the input is used up between
    two tokens, which is "input ended" with everything delivered.  So `Fine` speaks of whole runs too. -/
def asRes (r : List Ev × Option DecErr) : Res := .error (r.2.getD .eof, delivered r)

/-- what `Fine` says of two runs -/
theorem Fine.run {x y : Bytes} {a b : List Ev × Option DecErr} (h : Fine x y (asRes a) (asRes b)) :
    a.2 ≠ some .noProgress ∧ delivered a <+: b.1 ∧ ∀ e, a.2 = some e → e ≠ .eof → b.2 = some e := by
  obtain ⟨h1, h2, h3⟩ : a.2.getD .eof ≠ .noProgress ∧ (a.2.getD .eof = .eof → delivered a <+: delivered b) ∧
    (a.2.getD .eof ≠ .eof → asRes b = .error (a.2.getD .eof, delivered a)) := h
  have hb : delivered b <+: b.1 := by
    unfold delivered; split
    · exact List.dropLast_prefix _
    · exact List.prefix_refl _
  refine ⟨fun hn => h1 (by rw [hn]; rfl), ?_, fun e hae hne => ?_⟩
  · by_cases he : a.2.getD .eof = .eof
    · exact (h2 he).trans hb
    · obtain ⟨-, hd⟩ := Prod.mk.inj (Except.error.inj (h3 he)); exact hd ▸ hb
  · rw [hae, Option.getD_some] at h3
    obtain ⟨he, -⟩ := Prod.mk.inj (Except.error.inj (h3 hne))
    cases hb2 : b.2 with
    | none => rw [hb2] at he; exact (hne he.symm).elim
    | some e' => rw [hb2] at he; exact congrArg some he

theorem decodeLoop_nonempty (f : Nat) (x : Bytes) : (decodeLoop f x).2 = none → (decodeLoop f x).1 ≠ [] := by
  fun_induction decodeLoop f x <;> intro h
  · exact List.cons_ne_nil _ _
  · cases h
  · cases h
  · rename_i hrec ih
    rw [hrec] at ih
    exact fun he => ih h (List.append_eq_nil_iff.mp he).2

theorem delivered_append (evs l : List Ev) (err : Option DecErr) (h : err = none → l ≠ []) :
    delivered (evs ++ l, err) = evs ++ delivered (l, err) := by
  unfold delivered
  by_cases hn : err = none
  · simp only [hn, if_true]; exact List.dropLast_append_of_ne_nil (h hn)
  · simp only [hn, if_false]

/-- the main loop is one token, then the main loop -/
theorem asRes_decodeLoop_succ (f : Nat) (b : UInt8) (r : Bytes) :
    asRes (decodeLoop (f + 1) (b :: r)) = andThen (decodeOne (b :: r)) fun r' => asRes (decodeLoop f r') := by
  cases hd : decodeOne (b :: r) with
  | error q => simp only [decodeLoop, hd, andThen]; rfl
  | ok q =>
    simp only [decodeLoop, hd, andThen, asRes]
    rw [delivered_append _ _ _ (decodeLoop_nonempty f q.2), foldr_consEv_error]

/-- C07, C09 at the main loop -/
theorem fine_decodeLoop (y : Bytes) : ∀ (f1 f2 : Nat) (x : Bytes), x.length ≤ f1 → (x ++ y).length ≤ f2 →
    Fine x y (asRes (decodeLoop f1 x)) (asRes (decodeLoop f2 (x ++ y)))
  | f1, _, [], _, _ => by
    have : asRes (decodeLoop f1 []) = .error (.eof, []) := by cases f1 <;> rfl
    rw [this]; exact Fine.eof_nil _ _ _
  | 0, _, b :: r, h1, _ => by simp at h1
  | _, 0, b :: r, _, h2 => by simp at h2
  | f1 + 1, f2 + 1, b :: r, h1, h2 => by
    rw [List.cons_append, asRes_decodeLoop_succ, asRes_decodeLoop_succ]
    have hone := fine_decodeOne b r y
    refine (hone.andThen fun evs r' hd => ?_).mono (Nat.le_succ _)
    have hl : r'.length ≤ r.length := by rw [hd] at hone; exact hone.1
    simp only [List.length_cons, List.length_append] at h1 h2
    exact fine_decodeLoop y f1 f2 r' (by omega) (by rw [List.length_append]; omega)

/-- the document header: signature byte and version -/
def docHeader (bs : Bytes) : Except DecErr (Nat × Bytes) :=
  match bs with
  | [] => .error .eof
  | h :: r => if h.toNat ≠ signature then .error .badHeader else readUleb (2 ^ 64 - 1) r

theorem fineI_docHeader (x y : Bytes) : FineI x y (docHeader x) (docHeader (x ++ y)) := by
  cases x with
  | nil => exact FineI.eof _ _ _
  | cons h r =>
    exact FineI.ite (fun _ => FineI.fail _ (by decide) _ _) fun _ => (fineI_readUleb _ r y).mono (Nat.le_succ _)

theorem asRes_decode (bs : Bytes) : asRes (decode bs) = consEv .beginDoc (thenE (docHeader bs) fun v r =>
    consEv (.version (if v = 1 then 0 else v)) (asRes (decodeLoop r.length r))) := by
  unfold decode docHeader
  cases bs with
  | nil => rfl
  | cons h r =>
    simp only []
    split
    · rfl
    · cases readUleb (2 ^ 64 - 1) r with
      | error e => rfl
      | ok p =>
        show asRes ([_, _] ++ (decodeLoop p.2.length p.2).1, (decodeLoop p.2.length p.2).2) = _
        unfold asRes
        rw [delivered_append _ _ _ (decodeLoop_nonempty _ p.2)]
        rfl

/-- C07, C09 at the decoder: no input makes it stop for lack of fuel; what it has delivered when the input ends
    it delivers again when bytes are appended; an error other than "input ended" is there for every continuation -/
theorem fine_decode (x y : Bytes) : Fine x y (asRes (decode x)) (asRes (decode (x ++ y))) := by
  rw [asRes_decode, asRes_decode]
  exact Fine.cons _ (Fine.bindE (fineI_docHeader x y) fun v r _ =>
    Fine.cons _ (fine_decodeLoop y _ _ r (Nat.le_refl _) (Nat.le_refl _)))

theorem decodeLoop_prefix : ∀ (f1 f2 : Nat) (x y : Bytes), x.length ≤ f1 → (x ++ y).length ≤ f2 →
    delivered (decodeLoop f1 x) <+: (decodeLoop f2 (x ++ y)).1 :=
  fun f1 f2 x y h1 h2 => (fine_decodeLoop y f1 f2 x h1 h2).run.2.1

theorem decode_never_stalls (bs : Bytes) : (decode bs).2 ≠ some .noProgress :=
  (fine_decode bs []).run.1

theorem truncation_delivers_a_prefix (doc : Bytes) (k : Nat) :
    delivered (decode (doc.take k)) <+: (decode doc).1 := by
  have := (fine_decode (doc.take k) (doc.drop k)).run.2.1
  rwa [List.take_append_drop] at this

theorem truncation_error_is_eof (doc : Bytes) (k : Nat) (h : (decode doc).2 = none) :
    (decode (doc.take k)).2 = none ∨ (decode (doc.take k)).2 = some .eof := by
  cases hk : (decode (doc.take k)).2 with
  | none => exact .inl rfl
  | some e =>
    by_cases he : e = .eof
    · exact .inr (by rw [he])
    · have := (fine_decode (doc.take k) (doc.drop k)).run.2.2 e hk he
      rw [List.take_append_drop, h] at this
      cases this

end CE.Cbe

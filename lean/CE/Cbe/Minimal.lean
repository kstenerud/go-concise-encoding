import CE.Cbe.Encode
/-
  C22: every encoding the CBE format offers for a value (independent of the encoder's
  `switch`), and the minimal length among them.
-/
namespace CE.Cbe

/-- lengths of all encodings the format offers for the non-negative integer n < 2^64 -/
def posFormLens (n : Nat) : List Nat :=
  (if n ≤ 100 then [1] else []) ++        -- small int
  (if n < 2 ^ 8 then [2] else []) ++      -- type + 8 bits
  (if n < 2 ^ 16 then [3] else []) ++
  (if n < 2 ^ 32 then [5] else []) ++
  [9] ++                                  -- 64 bit, always available below 2^64
  [2 + byteLen n]                         -- variable length: type, length byte, bytes

/-- negative integer of magnitude n (n = 0 is negative zero, which has no small-int form) -/
def negFormLens (n : Nat) : List Nat :=
  (if 1 ≤ n ∧ n ≤ 100 then [1] else []) ++
  (if n < 2 ^ 8 then [2] else []) ++
  (if n < 2 ^ 16 then [3] else []) ++
  (if n < 2 ^ 32 then [5] else []) ++
  [9] ++ [2 + byteLen n]

theorem mem_posFormLens (n l : Nat) : l ∈ posFormLens n ↔
    (n ≤ 100 ∧ l = 1) ∨ (n < 2 ^ 8 ∧ l = 2) ∨ (n < 2 ^ 16 ∧ l = 3) ∨ (n < 2 ^ 32 ∧ l = 5) ∨ l = 9 ∨
      l = 2 + byteLen n := by
  simp only [posFormLens, List.mem_append, List.mem_ite_nil_right, List.mem_singleton, or_assoc]

theorem mem_negFormLens (n l : Nat) : l ∈ negFormLens n ↔
    ((1 ≤ n ∧ n ≤ 100) ∧ l = 1) ∨ (n < 2 ^ 8 ∧ l = 2) ∨ (n < 2 ^ 16 ∧ l = 3) ∨ (n < 2 ^ 32 ∧ l = 5) ∨ l = 9 ∨
      l = 2 + byteLen n := by
  simp only [negFormLens, List.mem_append, List.mem_ite_nil_right, List.mem_singleton, or_assoc]

def listMin : List Nat → Nat
  | [] => 0
  | [x] => x
  | x :: xs => min x (listMin xs)

theorem encPosInt_length (n : Nat) :
    (encPosInt n).length =
      if n ≤ 100 then 1 else if n ≤ 0xff then 2 else if n ≤ 0xffff then 3 else if n ≤ 0xffffffff then 5
      else if n < 2 ^ 48 then 2 + byteLen n else 9 := by
  simp only [encPosInt, smallIntMax, apply_ite List.length, List.length_cons, List.length_nil, leBytes_length,
    Nat.reduceAdd, Nat.zero_add, Nat.add_comm (byteLen n) 2]

theorem encNegInt_length (n : Nat) :
    (encNegInt n).length =
      if n = 0 then 2 else if n ≤ 100 then 1 else if n ≤ 0xff then 2 else if n ≤ 0xffff then 3
      else if n ≤ 0xffffffff then 5 else if n < 2 ^ 48 then 2 + byteLen n else 9 := by
  simp only [encNegInt, smallIntMax, apply_ite List.length, List.length_cons, List.length_nil, leBytes_length,
    Nat.reduceAdd, Nat.zero_add, Nat.add_comm (byteLen n) 2]


/-- number of trailing zero bits of a positive number (fuel-bounded) -/
def trailingZeros : Nat → Nat → Nat
  | 0, _ => 0
  | f + 1, n => if n % 2 = 0 ∧ n ≠ 0 then 1 + trailingZeros f (n / 2) else 0

/-- Is the finite non-zero binary64 pattern exactly representable with `p` significant bits
    and binary32's exponent range?  (p = 24: binary32; p = 8: bfloat16.)  Stated on the value
    m·2^e itself: number of significant bits and position of the lowest set bit. -/
def fitsNarrow (p : Nat) (b : Nat) : Bool :=
  let e := F.exp64 b
  let m := F.mant64 b
  if e = 0 ∨ e = 2047 then false
  else
    let M := 2 ^ 52 + m
    let tz := trailingZeros 53 M
    let L := 53 - tz                      -- significant bits
    let top : Int := (e : Int) - 1023     -- exponent of the leading bit
    let low : Int := top - (L - 1 : Nat)  -- exponent of the lowest set bit
    top ≤ 127 && (if top ≥ -126 then L ≤ p else low ≥ -126 - ((p : Int) - 1))

/-- minimal encoded length of one scalar/array event, from the format's offers -/
def minLen : Ev → Option Nat
  | .posInt n => some (listMin (posFormLens n))
  | .negInt n => some (listMin (negFormLens n))
  | .int i => some (if 0 ≤ i then listMin (posFormLens i.toNat) else listMin (negFormLens (-i).toNat))
  | .bigInt (some i) =>
    if i.natAbs < 2 ^ 64 then
      some (if 0 ≤ i then listMin (posFormLens i.toNat) else listMin (negFormLens i.natAbs))
    else some (1 + ulebLen (byteLen i.natAbs) + byteLen i.natAbs)
  | .float b =>
    if F.isNaN64 b ∨ F.isInf64 b then some 3
    else if F.isZero64 b then some (if F.sign64 b = 1 then 2 else 1)
    else if fitsNarrow 8 b then some 3
    else if fitsNarrow 24 b then some 5
    else some 9
  | .array t c d =>
    let hasShort : Bool := match t with
      | .string | .u16 | .u32 | .u64 | .i8 | .i16 | .i32 | .i64 | .f16 | .f32 | .f64 | .uid => true
      | _ => false
    let plane : Bool := match t with
      | .string | .rid | .customText | .customBinary | .bit | .u8 => false
      | _ => true
    some (d.length + (if plane then 2 else 1) + (if c ≤ 15 && hasShort then 0 else ulebLen (c * 2)))
  | .stringlike t d =>
    let hasShort : Bool := match t with | .string => true | _ => false
    let plane : Bool := match t with | .remoteRef => true | _ => false
    some (d.length + (if plane then 2 else 1) + (if d.length ≤ 15 && hasShort then 0 else ulebLen (d.length * 2)))
  | _ => none

end CE.Cbe

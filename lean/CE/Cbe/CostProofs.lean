import CE.Cbe.Cost
/-
  The reader's buffer is paid for by bytes that arrived, never by bytes that were announced.
-/
namespace CE.Cbe.Cost

/-- the buffer starts at `startSize` and doubles -/
structure Inv (s : RS) : Prop where
  /-- everything allocated so far is a geometric sum below the current length -/
  a : s.alloc + 2 * startSize ≤ 2 * s.len
  /-- the length is at most twice what has arrived (or the start size) -/
  b : s.len ≤ max startSize (2 * s.consumed)
  /-- the length is never below the start size -/
  d : startSize ≤ s.len

theorem Inv.init : Inv RS.init := by
  constructor <;> simp [RS.init, startSize]

theorem growTo_eq (count len : Nat) (h : len < count) : growTo count len = 2 * len := by
  unfold growTo
  rw [if_neg (Nat.not_lt_of_ge (Nat.mul_le_mul_left 2 (Nat.le_of_lt h)))]

/-- growing keeps the invariant: the buffer grows only when it is full (`filled = s.len`), and what fills it has
    arrived (`filled ≤ s.consumed`), so the new length `2 * s.len` is at most twice what has arrived -/
theorem Inv.grow {s : RS} (hi : Inv s) (count filled : Nat) (h1 : ¬ count ≤ filled) (hc : filled ≤ s.consumed) :
    Inv (if filled = s.len then { s with len := growTo count s.len, alloc := s.alloc + growTo count s.len } else s) := by
  split
  · rename_i hf
    rw [growTo_eq count s.len (hf ▸ Nat.lt_of_not_le h1)]
    have ha : s.alloc + 2 * s.len + 2 * startSize ≤ 2 * (2 * s.len) := by
      rw [Nat.add_right_comm, Nat.two_mul (2 * s.len)]
      exact Nat.add_le_add_right hi.a _
    exact ⟨ha, Nat.le_trans (Nat.mul_le_mul_left 2 (hf ▸ hc)) (Nat.le_max_right ..),
      Nat.le_trans hi.d (Nat.le_mul_of_pos_left _ (by decide))⟩
  · exact hi

/-- bytes that arrive keep the invariant -/
theorem Inv.arrive {s : RS} (hi : Inv s) (n : Nat) : Inv { s with consumed := s.consumed + n } :=
  ⟨hi.a, Nat.le_trans hi.b (Nat.max_le.2 ⟨Nat.le_max_left .., Nat.le_trans (Nat.mul_le_mul_left 2 (Nat.le_add_right ..)) (Nat.le_max_right ..)⟩), hi.d⟩

theorem readLoop_inv (count : Nat) : ∀ (fuel filled : Nat) (s : RS) (remaining : Nat) (sched : List Nat),
    Inv s → filled ≤ s.consumed →
    Inv (readLoop count fuel filled s remaining sched).s ∧
    (readLoop count fuel filled s remaining sched).s.consumed + (readLoop count fuel filled s remaining sched).remaining = s.consumed + remaining
  | 0, filled, s, remaining, sched, hi, hc => ⟨hi, rfl⟩
  | fuel + 1, filled, s, remaining, sched, hi, hc => by
    unfold readLoop
    by_cases h1 : count ≤ filled
    · rw [if_pos h1]; exact ⟨hi, rfl⟩
    rw [if_neg h1]
    have hi1 := hi.grow count filled h1 hc
    have hc1 : (if filled = s.len then { s with len := growTo count s.len, alloc := s.alloc + growTo count s.len } else s).consumed
        = s.consumed := by split <;> rfl
    generalize (if filled = s.len then ({ s with len := growTo count s.len, alloc := s.alloc + growTo count s.len } : RS) else s) = s1 at hi1 hc1 ⊢
    dsimp only
    by_cases hr : remaining = 0
    · rw [if_pos hr]; exact ⟨hi1, by rw [hc1, hr]⟩
    rw [if_neg hr]
    -- all that matters of the bytes this Read call hands over: no more than the document still holds
    have hn : min (min (max 1 (sched.headD 1)) (min s1.len count - filled)) remaining ≤ remaining := Nat.min_le_right _ _
    generalize min (min (max 1 (sched.headD 1)) (min s1.len count - filled)) remaining = n at hn ⊢
    obtain ⟨i1, i3⟩ := readLoop_inv count fuel (filled + n) { s1 with consumed := s1.consumed + n } (remaining - n) sched.tail
      (hi1.arrive n) (Nat.add_le_add_right (hc1 ▸ hc) n)
    exact ⟨i1, i3.trans (by rw [hc1, Nat.add_assoc, Nat.add_sub_of_le hn])⟩

theorem readInto_inv (count : Nat) (s : RS) (remaining : Nat) (sched : List Nat) (hi : Inv s) :
    Inv (readInto count s remaining sched).s ∧
    (readInto count s remaining sched).s.consumed + (readInto count s remaining sched).remaining = s.consumed + remaining :=
  readLoop_inv count count 0 s remaining sched hi (Nat.zero_le _)

theorem readMany_inv : ∀ (counts : List Nat) (s : RS) (remaining : Nat) (sched : List Nat),
    Inv s → Inv (readMany counts s remaining sched) ∧
    (readMany counts s remaining sched).consumed ≤ s.consumed + remaining
  | [], s, remaining, sched, hi => ⟨hi, Nat.le_add_right ..⟩
  | c :: cs, s, remaining, sched, hi => by
    unfold readMany
    obtain ⟨i1, i3⟩ := readInto_inv c s remaining sched hi
    simp only []
    by_cases hok : (readInto c s remaining sched).ok = true
    · rw [if_pos hok]
      obtain ⟨j1, j2⟩ := readMany_inv cs _ (readInto c s remaining sched).remaining (readInto c s remaining sched).sched i1
      exact ⟨j1, i3 ▸ j2⟩
    · rw [if_neg hok]
      exact ⟨i1, i3 ▸ Nat.le_add_right ..⟩

theorem Inv.alloc_le (s : RS) (h : Inv s) : s.alloc ≤ 4 * s.consumed := by
  have ha := h.a; have hb := h.b
  -- either the length is at most twice what has arrived, or it is the start size and nothing was allocated
  rcases Nat.le_total startSize (2 * s.consumed) with hc | hc
  · rw [Nat.max_eq_right hc] at hb
    exact Nat.le_trans (Nat.le_trans (Nat.le_add_right ..) ha)
      (Nat.le_trans (Nat.mul_le_mul_left 2 hb) (Nat.le_of_eq (Nat.mul_assoc 2 2 s.consumed).symm))
  · rw [Nat.max_eq_left hc] at hb
    have h0 : s.alloc + 2 * startSize ≤ 0 + 2 * startSize :=
      (Nat.zero_add _).symm ▸ Nat.le_trans ha (Nat.mul_le_mul_left 2 hb)
    exact Nat.le_trans (Nat.le_of_add_le_add_right h0) (Nat.zero_le _)

end CE.Cbe.Cost

import CE.Cbe.Fragment
/-
  Cuts inside a token (C09).  A byte string that is read back as one token whatever follows it (`Reads`) has no
  strict prefix that decodes: the decoder reads a prefix code (`token_cut_fails`, from `fine_decodeOne`).  For the
  forms of an integer a cut moreover delivers nothing (`IntForm.cut`).
-/
namespace CE.Cbe

/-- a strict prefix of a token is never read as some other, shorter token.  Of `h` only the case `rest = []` is
    used, and `hne` could go: the empty input fails with "input ended" as well. -/
theorem token_cut_fails (bs : Bytes) (evs : List Ev) (h : ∀ rest, decodeOne (bs ++ rest) = .ok (evs, rest))
    (p : Bytes) (hp : p <+: bs) (hne : p ≠ []) (hlt : p.length < bs.length) :
    ∃ part, decodeOne p = .error (.eof, part) ∧ part <+: evs := by
  obtain ⟨y, rfl⟩ := hp
  obtain ⟨b, r, rfl⟩ := List.exists_cons_of_ne_nil hne
  have hf := fine_decodeOne b r y
  rw [← List.cons_append, ← List.append_nil (_ ++ y), h []] at hf
  rcases hd : decodeOne (b :: r) with ⟨e, part⟩ | ⟨evs', r'⟩ <;> rw [hd] at hf
  · by_cases he : e = .eof
    · exact ⟨part, by rw [he], hf.2.1 he⟩
    · cases hf.2.2 he
  · -- read as a shorter token, `p` would leave `r' ++ y` of the whole, which leaves nothing
    obtain ⟨-, rfl⟩ := List.append_eq_nil_iff.mp (Prod.mk.inj (Except.ok.inj hf.2)).2.symm
    simp at hlt

theorem simple_token_cut_fails (st : EncSt) (e : Ev) (hs : simple e = true) (bs : Bytes)
    (henc : encodeEv st e = .ok (st, bs)) (hc : ∀ m s, e ≠ .comment m s)
    (p : Bytes) (hp : p <+: bs) (hne : p ≠ []) (hlt : p.length < bs.length) :
    ∃ part, decodeOne p = .error (.eof, part) ∧ part <+: renorm e :=
  token_cut_fails bs (renorm e) (reads_simple st e hs bs henc hc) p hp hne hlt

theorem group_cut_fails (t : ArrT) (hf : frag t = true) (hd : Bytes) (hah : arrayHeader t = .ok hd)
    (cs : List Chunk) (last : Chunk) (hcs : ∀ c ∈ cs, chunkOK (t.elemBits / 8) c) (hl : chunkOK (t.elemBits / 8) last)
    (p : Bytes) (hp : p <+: groupBytes t hd cs last) (hne : p ≠ []) (hlt : p.length < (groupBytes t hd cs last).length) :
    ∃ part, decodeOne p = .error (.eof, part) ∧ part <+: groupBack t cs last :=
  token_cut_fails _ _ (fun rest => (decodeOne_group t hf hd hah cs last hcs hl rest).2) p hp hne hlt

theorem fix_cut (neg : Bool) (w : Nat) (d : Bytes) (h : d.length < w) :
    decodeTok (if neg then .negFix w else .posFix w) d = .error (.eof, []) := by
  cases neg <;> simp [decodeTok.eq_def, takeN_short w d h, bind, Except.bind, lift]

/-- the length byte is missing, or fewer bytes follow than it announces -/
theorem var_cut (neg : Bool) (L : Nat) (hL : L < 128) (d : Bytes) (hd : d.length = L) (j : Nat)
    (hj : j < 1 + L) :
    decodeTok (if neg then .negVar else .posVar) ((u8 L :: d).take j) = .error (.eof, []) := by
  cases j with
  | zero => cases neg <;> rfl
  | succ j =>
    have hr : readUleb maxBigIntBytes (u8 L :: d.take j) = .ok (L, d.take j) := by
      have := readUleb_uleb maxBigIntBytes L (by simp [maxBigIntBytes]; omega) (by omega) (d.take j)
      rwa [uleb_lt L hL] at this
    have ht := takeN_short L (d.take j) (by simp; omega)
    cases neg <;> simp only [decodeTok.eq_def, decodeVarInt, List.take_succ_cons, hr, ht, bind, Except.bind, lift,
      Bool.false_eq_true, if_false, if_true]

theorem IntForm.cut {ev : Ev} {bs : Bytes} (hf : IntForm ev bs) (k : Nat) (hk : k < bs.length) :
    decodeOne (bs.take k) = .error (.eof, []) := by
  cases k with
  | zero => rfl
  | succ k =>
    cases hf with
    | small t i hc => simp at hk
    | fix neg n tag w hc hn =>
      simp only [List.take_succ_cons, decodeOne, hc]
      exact fix_cut neg w _ (by simp only [List.length_cons, List.length_take, leBytes_length] at hk ⊢; omega)
    | var neg n tag hc hn =>
      simp only [List.take_succ_cons, decodeOne, hc]
      exact var_cut neg (byteLen n) (byteLen_lt_128 n hn) _ (leBytes_length _ _) k
        (by simp only [List.length_cons, leBytes_length] at hk; omega)

end CE.Cbe

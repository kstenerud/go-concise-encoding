import CE.Cbe.Tokens
/-
  Arrays on the wire.  A "group" is a whole array sent as `arrayBegin`, any number of chunks (`arrayChunk n more`),
  the data of each chunk in any number of `arrayData` pieces.  The encoder's array state lives here (`trySmall`:
  the first chunk decides between the short header and header + chunk length).  An array sent as one event is
  the group of one chunk (`whole`).
-/
namespace CE.Cbe

/-- typed arrays whose elements are whole bytes -/
def typedArr : ArrT → Bool
  | .u8 | .u16 | .u32 | .u64 | .i8 | .i16 | .i32 | .i64 | .f16 | .f32 | .f64 | .uid => true
  | _ => false

theorem short_code : ∀ n : Fin 16, (u8 (0x80 ||| n.val)).toNat = 0x80 + n.val ∧ classify (0x80 + n.val) = .shortStr n.val := by
  decide +kernel

theorem short_typed : ∀ (t : ArrT) (code : Nat), shortCode t = some (code, true) → ∀ c : Fin 16,
    plane7fShort ((u8 (code ||| c.val)).toNat / 16 * 16) = some t ∧ (u8 (code ||| c.val)).toNat % 16 = c.val := by
  intro t code h
  cases t <;> cases h <;> decide +kernel

/-- array kinds of the chunked fragment: whole-byte elements -/
def frag (t : ArrT) : Bool := typedArr t || t == .string || t == .rid || t == .remoteRef

theorem frag_elemBits {t : ArrT} (h : frag t = true) : t.elemBits = 8 * (t.elemBits / 8) := by
  cases t <;> first | rfl | exact Bool.noConfusion h

theorem frag_width_pos {t : ArrT} (h : frag t = true) : 0 < t.elemBits / 8 := by
  cases t <;> first | decide | exact Bool.noConfusion h

/-- the widest element of the fragment is the 16-byte uid -/
theorem frag_width_le {t : ArrT} (h : frag t = true) : t.elemBits / 8 ≤ 16 := by
  cases t <;> first | decide | exact Bool.noConfusion h

theorem frag_ne_bit {t : ArrT} (h : frag t = true) : t ≠ .bit := by
  cases t <;> first | decide | exact Bool.noConfusion h

theorem frag_of_typedArr {t : ArrT} (h : typedArr t = true) : frag t = true := by simp [frag, h]

/-- the type tables, evaluated -/
theorem decodeOne_arrayHeader (t : ArrT) (h : frag t = true) :
    ∃ hd, arrayHeader t = .ok hd ∧
      ∀ X, decodeOne (hd ++ X) = consEv (.arrayBegin t) (decodeChunks t.elemBits (X.length + 1) X) := by
  cases t with
  | invalid | customText | customBinary | bit | media | mediaData => cases h
  | _ => exact ⟨_, rfl, fun _ => rfl⟩

/-- a chunk as the sender delivers it: the element count and the data in any number of pieces -/
structure Chunk where
  count : Nat
  pieces : List Bytes
deriving Repr

def Chunk.data (c : Chunk) : Bytes := c.pieces.flatten

/-- a chunk of `w`-byte elements with its data; `2 ^ 56` makes `count * w < 2 ^ 61` for every width up to 16 -/
def chunkOK (w : Nat) (c : Chunk) : Prop := c.count < 2 ^ 56 ∧ c.data.length = c.count * w

/-- what the chunk loop needs of a chunk of `w`-byte elements: the decoder computes the length in bits in a
    uint64 (`elemsToBytes`), so `count * w` has to stay below `2 ^ 64 / 8` -/
def chunkFits (w : Nat) (c : Chunk) : Prop := c.count * w < 2 ^ 61 ∧ c.data.length = c.count * w

theorem chunkOK.fits {w : Nat} {c : Chunk} (hw16 : w ≤ 16) (h : chunkOK w c) : chunkFits w c :=
  ⟨Nat.lt_of_le_of_lt (Nat.mul_le_mul_left c.count hw16) (by have := h.1; omega), h.2⟩

theorem chunkOK.fits_frag {t : ArrT} {c : Chunk} (hf : frag t = true) (h : chunkOK (t.elemBits / 8) c) :
    chunkFits (t.elemBits / 8) c := h.fits (frag_width_le hf)

/-- the bytes of a chunk sequence: `cs` are followed by more chunks, `last` is final -/
def chunksBytes : List Chunk → Chunk → Bytes
  | [], last => chunkHeader last.count false ++ last.data
  | c :: cs, last => chunkHeader c.count true ++ c.data ++ chunksBytes cs last

/-- what the decoder delivers for a chunk: the header, and the data in one piece if there is any -/
def chunkBack (c : Chunk) (more : Bool) : List Ev :=
  if c.count = 0 then [Ev.arrayChunk 0 more] else [Ev.arrayChunk c.count more, Ev.arrayData c.data]

def chunksBack : List Chunk → Chunk → List Ev
  | [], last => chunkBack last false
  | c :: cs, last => chunkBack c true ++ chunksBack cs last

/-- the header `2 * n + more` taken apart again -/
theorem chunkHeader_parts (n : Nat) (more : Bool) :
    (n * 2 + (if more then 1 else 0)) / 2 = n ∧ ((n * 2 + (if more then 1 else 0)) % 2 == 1) = more := by
  rw [Nat.add_comm, Nat.add_mul_div_right _ _ (by decide : 0 < 2), Nat.add_mul_mod_self_right]
  cases more <;> exact ⟨Nat.zero_add n, rfl⟩

/-- `2 ^ 63`: the header `2 * n + more` has to stay below `2 ^ 64` -/
theorem readUleb_chunkHeader (n : Nat) (more : Bool) (hn : n < 2 ^ 63) (X : Bytes) :
    readUleb (2 ^ 64 - 1) (chunkHeader n more ++ X) = .ok (n * 2 + (if more then 1 else 0), X) := by
  have hor : (n * 2 ||| (if more = true then 1 else 0)) = n * 2 + (if more = true then 1 else 0) := by
    cases more
    · simp
    · -- `n * 2` has bit 0 clear, so `||| 1` is `+ 1`
      have := Nat.two_pow_add_eq_or_of_lt (i := 1) (b := 1) (by decide) n
      simp only [Nat.pow_one] at this
      rw [if_pos rfl, Nat.mul_comm n 2, this]
  have hlt : n * 2 + (if more = true then 1 else 0) < 2 ^ 64 :=
    Nat.lt_mul_of_div_lt (Nat.lt_of_le_of_lt (Nat.le_of_eq (chunkHeader_parts n more).1) hn) (by decide)
  rw [chunkHeader, Nat.mod_eq_of_lt (Nat.lt_of_le_of_lt (Nat.le_add_right _ _) hlt), hor,
    readUleb_uleb _ _ (Nat.le_sub_one_of_lt hlt) hlt]

theorem decodeChunks_chunk (w : Nat) (hw : 0 < w) (c : Chunk) (hc : chunkFits w c) (more : Bool) (fuel : Nat)
    (rest : Bytes) :
    decodeChunks (8 * w) (fuel + 1) (chunkHeader c.count more ++ (c.data ++ rest)) =
      (chunkBack c more).foldr consEv (if more then decodeChunks (8 * w) fuel rest else .ok ([], rest)) := by
  obtain ⟨hnw, hd⟩ := hc
  unfold chunkBack
  generalize c.count = n, c.data = d at *
  have hn : n < 2 ^ 61 := Nat.lt_of_le_of_lt (Nat.le_mul_of_pos_right n hw) hnw
  rw [decodeChunks_succ, readUleb_chunkHeader n more (Nat.lt_trans hn (by decide))]
  obtain ⟨h1, h2⟩ := chunkHeader_parts n more
  generalize n * 2 + (if more = true then 1 else 0) = hdr at h1 h2
  have hmax : ¬ n > maxInt := Nat.not_lt_of_ge (Nat.le_of_lt (Nat.lt_trans hn (by decide)))
  -- the length in bytes as the decoder computes it, from the bit length modulo 2^64
  have hb : elemsToBytes (8 * w) n % 2 ^ 64 = n * w := by
    have e1 : n * (8 * w) = (n * w) * 8 := by rw [Nat.mul_comm 8 w, Nat.mul_assoc]
    have h81 : ¬ (8 * w = 1 ∧ n % 8 ≠ 0) := fun h => absurd (Nat.eq_one_of_mul_eq_one_right h.1) (by decide)
    have h64 : n * w * 8 < 2 ^ 61 * 8 := Nat.mul_lt_mul_of_lt_of_le hnw (Nat.le_refl 8) (by decide)
    simp only [elemsToBytes, e1, Nat.mod_eq_of_lt h64, h81, if_false]
    rw [Nat.mul_div_cancel _ (by decide), Nat.add_zero, Nat.mod_eq_of_lt (Nat.lt_trans hnw (by decide))]
  simp only [thenE, chunkBody, chunkMore, h1, h2, hmax, if_false, hb]
  by_cases h0 : n = 0
  · obtain rfl : d = [] := List.eq_nil_of_length_eq_zero (by rw [hd, h0, Nat.zero_mul])
    simp only [h0, Nat.zero_mul, if_true, List.nil_append, List.foldr_cons, List.foldr_nil]
  · have hne : ¬ n * w = 0 := Nat.mul_ne_zero h0 (Nat.ne_of_gt hw)
    simp only [h0, hne, if_false, hd ▸ takeN_append d rest, List.foldr_cons, List.foldr_nil]

theorem decodeChunks_chunks (w : Nat) (hw : 0 < w) (rest : Bytes) :
    ∀ (cs : List Chunk) (last : Chunk) (fuel : Nat), (∀ c ∈ cs, chunkFits w c) → chunkFits w last → cs.length < fuel →
      decodeChunks (8 * w) fuel (chunksBytes cs last ++ rest) = .ok (chunksBack cs last, rest)
  | _, _, 0, _, _, hf => absurd hf (Nat.not_lt_zero _)
  | [], last, fuel + 1, _, hl, _ => by
    rw [chunksBytes, List.append_assoc, decodeChunks_chunk w hw last hl false fuel rest, if_neg (by decide),
      foldr_consEv_ok, List.append_nil]
    rfl
  | c :: cs, last, fuel + 1, hcs, hl, hf => by
    rw [chunksBytes, List.append_assoc, List.append_assoc,
      decodeChunks_chunk w hw c (hcs c List.mem_cons_self) true fuel, if_pos rfl,
      decodeChunks_chunks w hw rest cs last fuel (fun x hx => hcs x (List.mem_cons_of_mem c hx)) hl
        (Nat.lt_of_succ_lt_succ hf),
      foldr_consEv_ok]
    rfl

theorem decodeChunks_multi (w : Nat) (hw : 0 < w) (hw16 : w ≤ 16) (rest : Bytes) :
    ∀ (cs : List Chunk) (last : Chunk) (fuel : Nat), (∀ c ∈ cs, chunkOK w c) → chunkOK w last → cs.length < fuel →
      decodeChunks (8 * w) fuel (chunksBytes cs last ++ rest) = .ok (chunksBack cs last, rest) :=
  fun cs last fuel hcs hl => decodeChunks_chunks w hw rest cs last fuel (fun c hc => (hcs c hc).fits hw16) (hl.fits hw16)

/-- the events of a chunk as sent -/
def chunkEvs (c : Chunk) (more : Bool) : List Ev := Ev.arrayChunk c.count more :: c.pieces.map Ev.arrayData

def chunksEvs : List Chunk → Chunk → List Ev
  | [], last => chunkEvs last false
  | c :: cs, last => chunkEvs c true ++ chunksEvs cs last

theorem enc_pieces (st : EncSt) (tail : List Ev) : ∀ ps : List Bytes,
    encodeFrom st (ps.map Ev.arrayData ++ tail) =
      (ps.flatten ++ (encodeFrom st tail).1, (encodeFrom st tail).2.1, (encodeFrom st tail).2.2)
  | [] => by simp
  | p :: ps => by
    simp only [List.map_cons, List.cons_append, encodeFrom, encodeEv.eq_def, enc_pieces st tail ps,
      List.flatten_cons, List.append_assoc]

theorem enc_chunk (t : ArrT) (c : Chunk) (more : Bool) (tail : List Ev) :
    encodeFrom { arrayType := t } (chunkEvs c more ++ tail) =
      (chunkHeader c.count more ++ c.data ++ (encodeFrom { arrayType := t } tail).1,
       (encodeFrom { arrayType := t } tail).2.1, (encodeFrom { arrayType := t } tail).2.2) := by
  simp only [chunkEvs, List.cons_append, encodeFrom, encodeEv.eq_def, Bool.false_eq_true, if_false, enc_pieces,
    Chunk.data, List.append_assoc]

theorem enc_chunks (t : ArrT) (tail : List Ev) : ∀ (cs : List Chunk) (last : Chunk),
    encodeFrom { arrayType := t } (chunksEvs cs last ++ tail) =
      (chunksBytes cs last ++ (encodeFrom { arrayType := t } tail).1,
       (encodeFrom { arrayType := t } tail).2.1, (encodeFrom { arrayType := t } tail).2.2)
  | [], last => by simp only [chunksEvs, chunksBytes, enc_chunk]
  | c :: cs, last => by
    simp only [chunksEvs, chunksBytes, List.append_assoc, enc_chunk, enc_chunks t tail cs last]

/-- the bytes of a whole array sent in chunks -/
def groupBytes (t : ArrT) (hd : Bytes) (cs : List Chunk) (last : Chunk) : Bytes :=
  match cs, smallHeader t last.count with
  | [], some h => h ++ last.data
  | _, _ => hd ++ chunksBytes cs last

theorem writes_group (t : ArrT) (hd : Bytes) (hah : arrayHeader t = .ok hd) (cs : List Chunk) (last : Chunk) :
    Writes (Ev.arrayBegin t :: chunksEvs cs last) (groupBytes t hd cs last) := by
  refine fun st tail _ => ⟨{ arrayType := t }, rfl, ?_⟩
  cases cs with
  | nil =>
    simp only [chunksEvs, chunkEvs, List.cons_append, encodeFrom, encodeEv.eq_def, if_true, Bool.false_eq_true,
      if_false, List.nil_append, groupBytes]
    cases hsm : smallHeader t last.count with
    | some h => simp only [enc_pieces, Chunk.data, List.append_assoc]
    | none =>
      simp only [hah, bind, Except.bind, enc_pieces, Chunk.data, chunksBytes, List.append_assoc]
  | cons c cs =>
    simp only [chunksEvs, chunkEvs, List.cons_append, encodeFrom, encodeEv.eq_def, if_true, List.nil_append,
      groupBytes, hah, bind, Except.bind, List.append_assoc, enc_pieces]
    have := enc_chunks t tail cs last
    simp only [this, chunksBytes, Chunk.data, List.append_assoc]

/-- what the decoder delivers for a whole array sent in chunks -/
def groupBack (t : ArrT) (cs : List Chunk) (last : Chunk) : List Ev :=
  match cs, smallHeader t last.count with
  | [], some _ => [Ev.array t last.count last.data]
  | _, _ => Ev.arrayBegin t :: chunksBack cs last

theorem chunkHeader_length (n : Nat) (more : Bool) : 1 ≤ (chunkHeader n more).length := uleb_length_pos _

/-- every chunk costs at least its header byte, which is what the decoder's fuel `length + 1` counts -/
theorem chunksBytes_length : ∀ (cs : List Chunk) (last : Chunk), cs.length + 1 ≤ (chunksBytes cs last).length
  | [], last => by
    rw [chunksBytes, List.length_append]
    exact Nat.le_trans (chunkHeader_length last.count false) (Nat.le_add_right ..)
  | c :: cs, last => by
    rw [chunksBytes, List.length_append, List.length_append, List.length_cons]
    refine Nat.le_trans (Nat.add_le_add (chunksBytes_length cs last) (chunkHeader_length c.count true)) ?_
    rw [Nat.add_comm (chunksBytes cs last).length]
    exact Nat.add_le_add_right (Nat.le_add_right ..) _

theorem group_short_or_long (t : ArrT) (cs : List Chunk) (last : Chunk) :
    (∃ h, cs = [] ∧ smallHeader t last.count = some h) ∨ (cs ≠ [] ∨ smallHeader t last.count = none) := by
  cases cs with
  | cons c cs => exact .inr (.inl (by simp))
  | nil =>
    cases hsm : smallHeader t last.count with
    | none => exact .inr (.inr rfl)
    | some h => exact .inl ⟨h, rfl, rfl⟩

theorem groupBytes_long {t : ArrT} {cs : List Chunk} {last : Chunk} (h : cs ≠ [] ∨ smallHeader t last.count = none)
    (hd : Bytes) : groupBytes t hd cs last = hd ++ chunksBytes cs last := by
  cases cs with
  | cons c cs => rfl
  | nil => rcases h with h | h <;> simp [groupBytes, h] at h ⊢

theorem groupBack_long {t : ArrT} {cs : List Chunk} {last : Chunk} (h : cs ≠ [] ∨ smallHeader t last.count = none) :
    groupBack t cs last = Ev.arrayBegin t :: chunksBack cs last := by
  cases cs with
  | cons c cs => rfl
  | nil => rcases h with h | h <;> simp [groupBack, h] at h ⊢

theorem smallHeader_isSome (t : ArrT) (c : Nat) :
    (smallHeader t c).isSome = true ↔ (shortCode t).isSome = true ∧ c ≤ maxSmallArrayLength := by
  unfold smallHeader
  by_cases hc : c > maxSmallArrayLength
  · simp [hc]
  · rcases hs : shortCode t with _ | ⟨code, _ | _⟩ <;> simp [hc] <;> omega

/-- the short form: the element count sits in the type byte, the elements follow -/
theorem reads_short (t : ArrT) (c : Nat) (d h : Bytes) (hsm : smallHeader t c = some h)
    (hlen : d.length = c * (t.elemBits / 8)) : Reads (h ++ d) [.array t c d] := by
  unfold smallHeader at hsm
  split at hsm
  · cases hsm
  · rename_i hc
    have hc15 : c < 16 := Nat.lt_succ_of_le (Nat.le_of_not_lt hc)
    rcases hsc : shortCode t with _ | ⟨code, _ | _⟩ <;> simp only [hsc] at hsm <;> cases hsm
    · -- the only short code outside plane 7f is the string's
      have ht : t = .string := by cases t <;> cases hsc <;> rfl
      subst ht
      cases hsc
      obtain rfl : d.length = c := hlen.trans (Nat.mul_one c)
      obtain ⟨h1, h2⟩ := short_code ⟨d.length, hc15⟩
      exact reads_field (tok := .shortStr d.length) (g := Ev.array .string d.length) (h1 ▸ h2) (fun _ => rfl)
        (takeN_append d)
    · obtain ⟨h1, h2⟩ := short_typed t code hsc ⟨c, hc15⟩
      refine reads_tok (tok := .plane7f) (b := u8 (code ||| c) :: d) (by decide) fun rest => ?_
      have htk : takeN (c * (t.elemBits / 8)) (d ++ rest) = .ok (d, rest) := hlen ▸ takeN_append d rest
      show decodePlane7f (u8 (code ||| c) :: (d ++ rest)) = _
      simp only [decodePlane7f, h1, h2, htk]
      rfl

/-- a chunk as the decoder delivers it: no data event for an empty chunk, one otherwise -/
def Chunk.norm (c : Chunk) : Chunk := { count := c.count, pieces := if c.count = 0 then [] else [c.data] }

theorem norm_data (w : Nat) (c : Chunk) (h : chunkFits w c) : c.norm.data = c.data := by
  by_cases h0 : c.count = 0
  · have : c.data = [] := List.eq_nil_of_length_eq_zero (by rw [h.2, h0]; simp)
    rw [this]
    simp [Chunk.norm, Chunk.data, h0]
  · simp [Chunk.norm, Chunk.data, h0]

theorem chunkBack_norm (c : Chunk) (more : Bool) : chunkBack c more = chunkEvs c.norm more := by
  unfold chunkBack chunkEvs Chunk.norm
  by_cases h0 : c.count = 0 <;> simp [h0]

theorem chunksBack_norm : ∀ (cs : List Chunk) (last : Chunk), chunksBack cs last = chunksEvs (cs.map Chunk.norm) last.norm
  | [], last => by simp [chunksBack, chunksEvs, chunkBack_norm]
  | c :: cs, last => by simp [chunksBack, chunksEvs, chunkBack_norm, chunksBack_norm cs last]

theorem chunksBytes_norm (w : Nat) : ∀ (cs : List Chunk) (last : Chunk), (∀ c ∈ cs, chunkFits w c) → chunkFits w last →
    chunksBytes (cs.map Chunk.norm) last.norm = chunksBytes cs last
  | [], last, _, hl => by
    have hc : last.norm.count = last.count := rfl
    simp only [List.map_nil, chunksBytes, norm_data w last hl, hc]
  | c :: cs, last, hcs, hl => by
    have hc : c.norm.count = c.count := rfl
    simp only [List.map_cons, chunksBytes, norm_data w c (hcs c (by simp)), hc,
      chunksBytes_norm w cs last (fun x hx => hcs x (by simp [hx])) hl]

/-- `H`: a header after which the decoder delivers `ev` and reads chunks of `w`-byte elements -/
theorem back_chunked (ev : Ev) (H : Bytes) (w : Nat) (hw : 0 < w)
    (hdec : ∀ X, decodeOne (H ++ X) = consEv ev (decodeChunks (8 * w) (X.length + 1) X))
    (cs : List Chunk) (last : Chunk) (hcs : ∀ c ∈ cs, chunkFits w c) (hl : chunkFits w last)
    (henc : Writes (ev :: chunksEvs (cs.map Chunk.norm) last.norm) (H ++ chunksBytes (cs.map Chunk.norm) last.norm)) :
    Writes (ev :: chunksBack cs last) (H ++ chunksBytes cs last) ∧
    Reads (H ++ chunksBytes cs last) (ev :: chunksBack cs last) := by
  refine ⟨by rwa [chunksBytes_norm w cs last hcs hl, ← chunksBack_norm] at henc, fun rest => ?_⟩
  have hlen := chunksBytes_length cs last
  rw [List.append_assoc, hdec,
    decodeChunks_chunks w hw rest cs last _ hcs hl (by simp only [List.length_append]; omega)]
  rfl

theorem back_group (t : ArrT) (hf : frag t = true) (hd : Bytes) (hah : arrayHeader t = .ok hd)
    (cs : List Chunk) (last : Chunk) (hcs : ∀ c ∈ cs, chunkFits (t.elemBits / 8) c) (hl : chunkFits (t.elemBits / 8) last) :
    Writes (groupBack t cs last) (groupBytes t hd cs last) ∧ Reads (groupBytes t hd cs last) (groupBack t cs last) := by
  rcases group_short_or_long t cs last with ⟨h, rfl, hsm⟩ | hlong
  · simp only [groupBytes, groupBack, hsm]
    exact ⟨.of_encodeEv fun st => by simp [encodeEv.eq_def, encArrayWhole, hsm, bind, Except.bind],
      reads_short t last.count last.data h hsm hl.2⟩
  · have hbits := frag_elemBits hf
    have hw := frag_width_pos hf
    obtain ⟨hd', hah', hdec⟩ := decodeOne_arrayHeader t hf
    obtain rfl : hd' = hd := by rw [hah] at hah'; cases hah'; rfl
    have hlongN : cs.map Chunk.norm ≠ [] ∨ smallHeader t last.norm.count = none := by
      simpa [Chunk.norm] using hlong
    rw [groupBytes_long hlong, groupBack_long hlong]
    exact back_chunked _ hd' _ hw (fun X => by rw [← hbits, hdec]) cs last hcs hl
      (groupBytes_long hlongN hd' ▸ writes_group t hd' hah _ _)

theorem decodeOne_group (t : ArrT) (hf : frag t = true) (hd : Bytes) (hah : arrayHeader t = .ok hd)
    (cs : List Chunk) (last : Chunk) (hcs : ∀ c ∈ cs, chunkOK (t.elemBits / 8) c) (hl : chunkOK (t.elemBits / 8) last)
    (rest : Bytes) :
    groupBytes t hd cs last ≠ [] ∧
    decodeOne (groupBytes t hd cs last ++ rest) = .ok (groupBack t cs last, rest) :=
  (back_group t hf hd hah cs last (fun c hc => (hcs c hc).fits_frag hf) (hl.fits_frag hf)).2.spec rest

theorem gather_pieces (ps : List Bytes) (xs : List Ev) (c0 : List Nat) (d0 : Bytes) :
    gather (ps.map Ev.arrayData ++ xs) c0 d0 = gather xs c0 (d0 ++ ps.flatten) := by
  induction ps generalizing d0 with
  | nil => simp
  | cons p ps ih => rw [List.map_cons, List.cons_append, gather, ih, List.flatten_cons, List.append_assoc]

theorem gather_chunkEvs (c : Chunk) (more : Bool) (xs : List Ev) (c0 : List Nat) (d0 : Bytes) :
    gather (chunkEvs c more ++ xs) c0 d0 = gather xs (c0 ++ [c.count]) (d0 ++ c.data) := by
  rw [chunkEvs, List.cons_append, gather, gather_pieces, Chunk.data]

def chunkCounts (cs : List Chunk) (last : Chunk) : List Nat := cs.map Chunk.count ++ [last.count]
def chunkData (cs : List Chunk) (last : Chunk) : Bytes := (cs.map Chunk.data).flatten ++ last.data

theorem gather_chunksEvs (xs : List Ev) (hcl : clean xs = true) : ∀ (cs : List Chunk) (last : Chunk) (c0 : List Nat) (d0 : Bytes),
    gather (chunksEvs cs last ++ xs) c0 d0 = (c0 ++ chunkCounts cs last, d0 ++ chunkData cs last, xs)
  | [], last, c0, d0 => by
    simp [chunksEvs, gather_chunkEvs, gather_clean xs _ _ hcl, chunkCounts, chunkData]
  | c :: cs, last, c0, d0 => by
    simp only [chunksEvs, List.append_assoc, gather_chunkEvs, gather_chunksEvs xs hcl cs last]
    simp [chunkCounts, chunkData, List.append_assoc]

theorem chunkData_norm (w : Nat) (cs : List Chunk) (last : Chunk) (hcs : ∀ c ∈ cs, chunkFits w c)
    (hl : chunkFits w last) : chunkData (cs.map Chunk.norm) last.norm = chunkData cs last := by
  rw [chunkData, chunkData, norm_data w last hl, List.map_map,
    List.map_congr_left (f := Chunk.data ∘ Chunk.norm) (g := Chunk.data) fun c hc => norm_data w c (hcs c hc)]

theorem canonArr_nonbit (t : ArrT) (h : t ≠ .bit) (cs : List Nat) (d : Bytes) : canonArr t cs d = CEv.arr t d := by
  cases t <;> first | rfl | exact absurd rfl h

theorem canon_chunksEvs (t : ArrT) (hnb : t ≠ .bit) (cs : List Chunk) (last : Chunk) (ys : List Ev)
    (hcly : clean ys = true) :
    canon false (Ev.arrayBegin t :: (chunksEvs cs last ++ ys)) = CEv.arr t (chunkData cs last) :: canon false ys := by
  rw [canon_arrayBegin, gather_chunksEvs ys hcly cs last [] [], canonArr_nonbit t hnb]; rfl

theorem canon_groupBack (t : ArrT) (hf : frag t = true) (cs : List Chunk) (last : Chunk)
    (hcs : ∀ c ∈ cs, chunkFits (t.elemBits / 8) c) (hl : chunkFits (t.elemBits / 8) last)
    (xs : List Ev) (hclx : clean xs = true) :
    canon false (groupBack t cs last ++ xs) = CEv.arr t (chunkData cs last) :: canon false xs := by
  have hnb := frag_ne_bit hf
  rcases group_short_or_long t cs last with ⟨h, rfl, hsm⟩ | hlong
  · simp only [groupBack, hsm, List.singleton_append, canon_array, chunkData, List.map_nil, List.flatten_nil,
      List.nil_append, canonArr_nonbit t hnb]
  · rw [groupBack_long hlong, chunksBack_norm, List.cons_append, canon_chunksEvs t hnb _ _ xs hclx,
      chunkData_norm _ cs last hcs hl]

theorem clean_groupBack (t : ArrT) (cs : List Chunk) (last : Chunk) (xs : List Ev) : clean (groupBack t cs last ++ xs) = true := by
  unfold groupBack
  split <;> rfl

theorem canonSame_group (t : ArrT) (hf : frag t = true) (cs : List Chunk) (last : Chunk)
    (hcs : ∀ c ∈ cs, chunkFits (t.elemBits / 8) c) (hl : chunkFits (t.elemBits / 8) last) :
    CanonSame (Ev.arrayBegin t :: chunksEvs cs last) (groupBack t cs last) := fun xs ys hx hy hxy =>
  ⟨by rw [canon_groupBack t hf cs last hcs hl xs hx, List.cons_append,
        canon_chunksEvs t (frag_ne_bit hf) cs last ys hy, hxy],
   clean_groupBack t cs last xs, rfl⟩

theorem token_group (t : ArrT) (hf : frag t = true) (cs : List Chunk) (last : Chunk)
    (hcs : ∀ c ∈ cs, chunkFits (t.elemBits / 8) c) (hl : chunkFits (t.elemBits / 8) last) :
    Piece (Ev.arrayBegin t :: chunksEvs cs last) (groupBack t cs last) := by
  obtain ⟨hd, hah, -⟩ := decodeOne_arrayHeader t hf
  obtain ⟨w, r⟩ := back_group t hf hd hah cs last hcs hl
  exact .token (writes_group t hd hah cs last) w r (canonSame_group t hf cs last hcs hl)

/-- the one chunk of an array sent whole -/
def whole (c : Nat) (d : Bytes) : Chunk := ⟨c, [d]⟩

@[simp] theorem whole_data (c : Nat) (d : Bytes) : (whole c d).data = d := by simp [whole, Chunk.data]

@[simp] theorem whole_count (c : Nat) (d : Bytes) : (whole c d).count = c := rfl

theorem chunkData_whole (c : Nat) (d : Bytes) : chunkData [] (whole c d) = d := by
  simp [chunkData]

theorem encArrayWhole_eq (t : ArrT) (c : Nat) (d hd : Bytes) (hah : arrayHeader t = .ok hd) :
    encArrayWhole t c d = .ok (groupBytes t hd [] (whole c d)) := by
  unfold encArrayWhole groupBytes
  rcases hsm : smallHeader t c with _ | h <;> simp [whole, hsm, hah, chunksBytes, Chunk.data, bind, Except.bind]

end CE.Cbe

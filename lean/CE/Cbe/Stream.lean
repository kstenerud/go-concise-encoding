import CE.Cbe.Fragment
/-
  Documents of events of the structural fragment: `document_roundtrip` (C01) and `canonical_fixed_point` (C22).
  What the decoder delivers for an encoder-written fragment event stands for the event (`renorm_stands`), so the
  event is a token, the list of events a piece, and the document theorems are what `Piece.document` says of it.
-/
namespace CE.Cbe

/-- a comment is written as no bytes and delivers nothing -/
theorem token_simple (e : Ev) (h : simple e = true) : Piece [e] (renorm e) := by
  obtain ⟨⟨B, hB, hw⟩, hsame⟩ := renorm_stands e h
  refine ⟨⟨B, .of_encodeEv hB, hw, ?_⟩, hsame⟩
  by_cases hcom : ∃ m s, e = .comment m s
  · obtain ⟨m, s, rfl⟩ := hcom
    cases hB {}
    exact fun _ _ h => h
  · exact fun _ _ => (reads_simple {} e h B (hB {}) fun m s he => hcom ⟨m, s, he⟩).cons

theorem tokens_simple (evs : List Ev) (h : evs.all simple = true) : Piece evs (evs.flatMap renorm) := by
  simpa only [List.flatMap_singleton'] using
    Piece.flatMap (fun e => [e]) renorm evs fun e he => token_simple e (List.all_eq_true.mp h e he)

theorem encode_doc (evs : List Ev) (h : evs.all simple = true) :
    encode (Ev.beginDoc :: Ev.version 0 :: (evs ++ [Ev.endDoc])) =
      (u8 signature :: (uleb 0 ++ (encodeFrom {} evs).1), none) :=
  (tokens_simple evs h).document.1

theorem decode_encode_doc (evs : List Ev) (h : evs.all simple = true) :
    decode (encode (Ev.beginDoc :: Ev.version 0 :: (evs ++ [Ev.endDoc]))).1 =
      (Ev.beginDoc :: Ev.version 0 :: (evs.flatMap renorm ++ [Ev.endDoc]), none) :=
  (tokens_simple evs h).document.2.1

theorem document_roundtrip (evs : List Ev) (h : evs.all simple = true) :
    let doc := Ev.beginDoc :: Ev.version 0 :: (evs ++ [Ev.endDoc])
    (encode doc).2 = none ∧
    ∃ back, decode (encode doc).1 = (back, none) ∧ canon false back = canon false doc :=
  let ⟨hB, hdec, _, hcan⟩ := (tokens_simple evs h).document
  ⟨by rw [hB], _, hdec, hcan⟩

theorem canonical_fixed_point (evs : List Ev) (h : evs.all simple = true) :
    let doc := Ev.beginDoc :: Ev.version 0 :: (evs ++ [Ev.endDoc])
    ∃ back, decode (encode doc).1 = (back, none) ∧ encode back = encode doc :=
  let ⟨_, hdec, hfix, _⟩ := (tokens_simple evs h).document
  ⟨_, hdec, hfix⟩

end CE.Cbe

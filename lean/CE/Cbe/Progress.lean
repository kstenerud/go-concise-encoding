import CE.Cbe.Fine
/-
  Progress of the CBE decoder model (C07, C08): every iteration of the main decode loop consumes at least one
  byte, and a chunk sequence that is read consumes at least its first header byte, so a run takes at most as many
  iterations as the input has bytes.  That the fuel the model's loops carry (remaining length) is never the
  reason a run stops is part of `fine_decode` (CE/Cbe/Prefix.lean).
-/
namespace CE.Cbe

/-- for ANY fuel (`Fine` speaks only of fuel beyond the length), hence an induction of its own, along the four ways
    a chunk sequence is read: the first header takes at least a byte (`hu`); then there are no data or there are
    (`ht`), and no further chunks or further ones (`ih`) -/
theorem decodeChunks_len (bits : Nat) : ∀ (fuel : Nat) (bs : Bytes) (evs : List Ev) (r : Bytes),
    decodeChunks bits fuel bs = .ok (evs, r) → r.length < bs.length := by
  intro fuel bs
  fun_induction decodeChunks bits fuel bs <;> intro evs r h <;> cases h
  all_goals have hu := readUleb_len _ _ _ _ ‹readUleb _ _ = _›
  · rename_i hrec ih; exact Nat.lt_trans (ih _ _ hrec) hu
  · exact hu
  · rename_i ht _ _ _ hrec ih
    exact Nat.lt_trans (ih _ _ hrec) (Nat.lt_of_le_of_lt ((fineI_takeN _ _ []).len ht) hu)
  · rename_i ht _; exact Nat.lt_of_le_of_lt ((fineI_takeN _ _ []).len ht) hu

theorem decodeOne_progress (bs : Bytes) (evs : List Ev) (r : Bytes) (h : decodeOne bs = .ok (evs, r)) :
    r.length < bs.length := by
  cases bs with
  | nil => cases h
  | cons b bs => have := fine_decodeOne b bs []; rw [h] at this; exact Nat.lt_succ_of_le this.1

/-- number of main-loop iterations of a run -/
def loopIterations : Nat → Bytes → Nat
  | _, [] => 0
  | 0, _ => 0
  | fuel + 1, bs =>
    match decodeOne bs with
    | .error _ => 1
    | .ok (_, r) => 1 + loopIterations fuel r

theorem loopIterations_le : ∀ (fuel : Nat) (bs : Bytes), loopIterations fuel bs ≤ bs.length := by
  intro fuel bs
  fun_induction loopIterations fuel bs
  · exact Nat.zero_le _
  · exact Nat.zero_le _
  · rename_i hne _ _; exact List.length_pos_iff.mpr hne
  · rename_i hd ih; have := decodeOne_progress _ _ _ hd; omega

end CE.Cbe

import CE.Cbe.Stream
/-
  Documents with arrays, media objects and custom binary data sent in chunks, and with the one-event forms of a
  media object, custom binary data and a remote reference (the same bytes as begin + one chunk).  Media objects and
  custom data differ in their begin event only: what the proofs need of it is `Opens`.  Every `Item` is a token
  (`Item.token`), hence `items_document_roundtrip` and `items_canonical_fixed_point`.
-/
namespace CE.Cbe

/-- a stream item: one event of the structural fragment; a whole array, a media object or custom binary data
    sent in chunks; or the one-event form of a media object, custom binary data or a remote reference -/
inductive Item
  | ev (e : Ev)
  | arr (t : ArrT) (cs : List Chunk) (last : Chunk)
  | media (mt : Bytes) (cs : List Chunk) (last : Chunk)
  | custom (ty : Nat) (cs : List Chunk) (last : Chunk)
  | mediaWhole (mt d : Bytes)
  | customWhole (ty : Nat) (d : Bytes)
  | rrefWhole (s : Bytes)

def Item.events : Item → List Ev
  | .ev e => [e]
  | .arr t cs last => Ev.arrayBegin t :: chunksEvs cs last
  | .media mt cs last => Ev.mediaBegin mt :: chunksEvs cs last
  | .custom ty cs last => Ev.customBegin .customBinary ty :: chunksEvs cs last
  | .mediaWhole mt d => [Ev.media mt d]
  | .customWhole ty d => [Ev.customBinary ty d]
  | .rrefWhole s => [Ev.stringlike .remoteRef s]

def Item.ok : Item → Prop
  | .ev e => simple e = true
  | .arr t cs last => frag t = true ∧ (∀ c ∈ cs, chunkOK (t.elemBits / 8) c) ∧ chunkOK (t.elemBits / 8) last
  | .media mt cs last => mt.length ≤ maxMediaTypeLength ∧ (∀ c ∈ cs, chunkOK 1 c) ∧ chunkOK 1 last
  | .custom ty cs last => ty ≤ maxCustomType ∧ (∀ c ∈ cs, chunkOK 1 c) ∧ chunkOK 1 last
  | .mediaWhole mt d => mt.length ≤ maxMediaTypeLength ∧ d.length < 2 ^ 56
  | .customWhole ty d => ty ≤ maxCustomType ∧ d.length < 2 ^ 56
  | .rrefWhole s => s.length < 2 ^ 56

/-- what the decoder delivers for the item's bytes; a one-event form comes back as begin + one chunk -/
def Item.back : Item → List Ev
  | .ev e => renorm e
  | .arr t cs last => groupBack t cs last
  | .media mt cs last => Ev.mediaBegin mt :: chunksBack cs last
  | .custom ty cs last => Ev.customBegin .customBinary ty :: chunksBack cs last
  | .mediaWhole mt d => Ev.mediaBegin mt :: chunksBack [] (whole d.length d)
  | .customWhole ty d => Ev.customBegin .customBinary ty :: chunksBack [] (whole d.length d)
  | .rrefWhole s => groupBack .remoteRef [] (whole s.length s)

/-- `2 ^ 56`: the bound of `chunkOK` (made for 16-byte elements), as in `Item.ok`; `2 ^ 61` would do -/
theorem whole_fits (d : Bytes) (h : d.length < 2 ^ 56) : chunkFits 1 (whole d.length d) :=
  ⟨by simp; omega, by simp⟩

/-- the begin event `ev` opens an object of chunked bytes: the encoder writes it as `H` and goes on in the array
    kind `t`, past the choice of header (media and custom data have no short form); the decoder reads `H` back as
    `ev` and enters the chunk loop; `canon` makes `f` of the data of the chunks that follow -/
structure Opens (ev : Ev) (H : Bytes) (t : ArrT) (f : Bytes → CEv) : Prop where
  enc : ∀ st, encodeEv st ev = .ok ({ arrayType := t }, H)
  dec : ∀ X, decodeOne (H ++ X) = consEv ev (decodeChunks (8 * 1) (X.length + 1) X)
  gathers : ∀ es, canon false (ev :: es) = f (gather es [] []).2.1 :: canon false (gather es [] []).2.2
  starts : ∀ zs, clean (ev :: zs) = true

theorem opens_media (mt : Bytes) (hmt : mt.length ≤ maxMediaTypeLength) :
    Opens (.mediaBegin mt) (encMediaBegin mt) .media (.media mt) where
  enc _ := rfl
  dec X := by
    have hlt : mt.length < 2 ^ 64 := by simp [maxMediaTypeLength] at hmt; omega
    have hp : decodeOne (encMediaBegin mt ++ X) = decodeMedia (uleb mt.length ++ (mt ++ X)) := by
      simp only [encMediaBegin, List.cons_append, List.nil_append, List.append_assoc]; rfl
    rw [hp, decodeMedia_eq, readUleb_uleb _ _ hmt hlt, thenE, takeN_append, thenE]
  gathers := canon_mediaBegin false mt
  starts _ := rfl

theorem opens_custom (ty : Nat) (hty : ty ≤ maxCustomType) :
    Opens (.customBegin .customBinary ty) (u8 tCustom :: uleb ty) .customBinary (.custom false ty) where
  enc _ := rfl
  dec X := by
    have hlt : ty < 2 ^ 64 := by simp [maxCustomType] at hty; omega
    have hp : decodeOne (u8 tCustom :: uleb ty ++ X) = decodeCustom (uleb ty ++ X) := rfl
    rw [hp, decodeCustom_eq, readUleb_uleb _ _ hty hlt, thenE]
  gathers := canon_customBegin false .customBinary ty
  starts _ := rfl

theorem Opens.writes {ev : Ev} {H : Bytes} {t : ArrT} {f : Bytes → CEv} (o : Opens ev H t f) (cs : List Chunk)
    (last : Chunk) : Writes (ev :: chunksEvs cs last) (H ++ chunksBytes cs last) :=
  fun st tail _ => ⟨{ arrayType := t }, rfl, by
    simp only [List.cons_append, encodeFrom, o.enc, enc_chunks t tail cs last, List.append_assoc]⟩

theorem Opens.canon_chunks {ev : Ev} {H : Bytes} {t : ArrT} {f : Bytes → CEv} (o : Opens ev H t f) (cs : List Chunk)
    (last : Chunk) (ys : List Ev) (hcly : clean ys = true) :
    canon false (ev :: (chunksEvs cs last ++ ys)) = f (chunkData cs last) :: canon false ys := by
  rw [o.gathers, gather_chunksEvs ys hcly cs last [] []]; rfl

/-- `L`: what is sent, in chunks (`ev :: chunksEvs cs last`) or as one event -/
theorem Opens.token {ev : Ev} {H : Bytes} {t : ArrT} {f : Bytes → CEv} (o : Opens ev H t f)
    (cs : List Chunk) (last : Chunk) (hcs : ∀ c ∈ cs, chunkFits 1 c) (hl : chunkFits 1 last)
    (L : List Ev) (hL : Writes L (H ++ chunksBytes cs last))
    (hLc : ∀ ys, clean ys = true → canon false (L ++ ys) = f (chunkData cs last) :: canon false ys ∧
      clean (L ++ ys) = true) :
    Piece L (ev :: chunksBack cs last) := by
  obtain ⟨w, r⟩ := back_chunked ev H 1 (by decide) o.dec cs last hcs hl (o.writes _ _)
  refine .token hL w r fun xs ys hx hy hxy => ⟨?_, o.starts _, (hLc ys hy).2⟩
  rw [List.cons_append, chunksBack_norm, o.canon_chunks _ _ xs hx, chunkData_norm 1 cs last hcs hl, (hLc ys hy).1, hxy]

theorem Opens.chunked {ev : Ev} {H : Bytes} {t : ArrT} {f : Bytes → CEv} (o : Opens ev H t f)
    (cs : List Chunk) (last : Chunk) (hcs : ∀ c ∈ cs, chunkOK 1 c) (hl : chunkOK 1 last) :
    Piece (ev :: chunksEvs cs last) (ev :: chunksBack cs last) :=
  o.token cs last (fun c hc => (hcs c hc).fits (by decide)) (hl.fits (by decide)) _ (o.writes cs last)
    fun ys hy => ⟨o.canon_chunks cs last ys hy, o.starts _⟩

theorem writes_mediaWhole (mt d : Bytes) :
    Writes [Ev.media mt d] (encMediaBegin mt ++ chunksBytes [] (whole d.length d)) :=
  fun st tail _ => ⟨{ arrayType := .media }, rfl, by
    simp only [List.singleton_append, encodeFrom, encodeEv, chunksBytes, whole, Chunk.data, List.flatten_cons,
      List.flatten_nil, List.append_nil, List.append_assoc]⟩

theorem writes_customWhole (ty : Nat) (d : Bytes) :
    Writes [Ev.customBinary ty d] (u8 tCustom :: uleb ty ++ chunksBytes [] (whole d.length d)) :=
  .of_encodeEv fun st => by
    simp only [encodeEv, chunksBytes, whole, Chunk.data, List.flatten_cons, List.flatten_nil, List.append_nil,
      List.append_assoc, List.cons_append]

theorem Item.token (i : Item) (hok : i.ok) : Piece i.events i.back := by
  cases i with
  | ev e => exact token_simple e hok
  | arr t cs last =>
    obtain ⟨hf, hcs, hl⟩ := hok
    exact token_group t hf cs last (fun c hc => (hcs c hc).fits_frag hf) (hl.fits_frag hf)
  | media mt cs last => exact (opens_media mt hok.1).chunked cs last hok.2.1 hok.2.2
  | custom ty cs last => exact (opens_custom ty hok.1).chunked cs last hok.2.1 hok.2.2
  | mediaWhole mt d =>
    exact (opens_media mt hok.1).token [] _ (by simp) (whole_fits d hok.2) _ (writes_mediaWhole mt d)
      fun ys _ => ⟨by rw [chunkData_whole]; exact canon.eq_def false _, rfl⟩
  | customWhole ty d =>
    exact (opens_custom ty hok.1).token [] _ (by simp) (whole_fits d hok.2) _ (writes_customWhole ty d)
      fun ys _ => ⟨by rw [chunkData_whole]; exact canon.eq_def false _, rfl⟩
  | rrefWhole s =>
    obtain ⟨⟨⟨B, hB, w⟩, c⟩, r⟩ := whole_event (t := .remoteRef) (e := .stringlike .remoteRef s) rfl (whole_fits s hok)
      (fun _ => rfl) rfl (by simp [canon])
    exact .token (.of_encodeEv hB) w (r {} B (hB {})) c

theorem tokens_items (items : List Item) (h : ∀ i ∈ items, i.ok) :
    Piece (items.flatMap Item.events) (items.flatMap Item.back) :=
  .flatMap _ _ items fun i hi => i.token (h i hi)

theorem items_encode_doc (items : List Item) (h : ∀ i ∈ items, i.ok) :
    encode (Ev.beginDoc :: Ev.version 0 :: (items.flatMap Item.events ++ [Ev.endDoc])) =
      (u8 signature :: (uleb 0 ++ (encodeFrom {} (items.flatMap Item.events)).1), none) :=
  (tokens_items items h).document.1

theorem items_decode_encode_doc (items : List Item) (h : ∀ i ∈ items, i.ok) :
    decode (encode (Ev.beginDoc :: Ev.version 0 :: (items.flatMap Item.events ++ [Ev.endDoc]))).1 =
      (Ev.beginDoc :: Ev.version 0 :: (items.flatMap Item.back ++ [Ev.endDoc]), none) :=
  (tokens_items items h).document.2.1

theorem items_document_roundtrip (items : List Item) (h : ∀ i ∈ items, i.ok) :
    let doc := Ev.beginDoc :: Ev.version 0 :: (items.flatMap Item.events ++ [Ev.endDoc])
    (encode doc).2 = none ∧
    ∃ back, decode (encode doc).1 = (back, none) ∧ canon false back = canon false doc :=
  let ⟨hB, hdec, _, hcan⟩ := (tokens_items items h).document
  ⟨by rw [hB], _, hdec, hcan⟩

theorem items_canonical_fixed_point (items : List Item) (h : ∀ i ∈ items, i.ok) :
    let doc := Ev.beginDoc :: Ev.version 0 :: (items.flatMap Item.events ++ [Ev.endDoc])
    ∃ back, decode (encode doc).1 = (back, none) ∧ encode back = encode doc :=
  let ⟨_, hdec, hfix, _⟩ := (tokens_items items h).document
  ⟨_, hdec, hfix⟩

end CE.Cbe

import CE.Cbe.Decode
/-
  Every reader of the CBE decoder model reads a prefix code and consumes what it reads.  `Fine x y r1 r2` says so
  of the results `r1` on an input `x` and `r2` on `x ++ y`; it is closed under the ways the decoder puts readers
  together, so it is proved once per reader, up to `fine_decodeOne` (and, in CE/Cbe/Prefix.lean, the whole run).
-/
namespace CE.Cbe

abbrev Res := Except (DecErr × List Ev) (List Ev × Bytes)

/-- `r2`, the result on `x ++ y`, extends `r1`, the result on `x` -/
def Ext (y : Bytes) (r1 r2 : Res) : Prop :=
  match r1 with
  | .ok (evs, r) => r2 = .ok (evs, r ++ y)
  | .error (e, p) =>
    if e = .eof then (match r2 with | .ok (evs, _) => p <+: evs | .error (_, p') => p <+: p')
    else r2 = .error (e, p)

/-- an event delivered before the reader starts -/
def consEv (ev : Ev) (r : Res) : Res :=
  match r with
  | .error (e, evs) => .error (e, ev :: evs)
  | .ok (evs, r) => .ok (ev :: evs, r)

/-- what a reader has delivered, whether or not it went on to fail -/
def evsOf : Res → List Ev
  | .ok (evs, _) => evs
  | .error (_, p) => p

theorem evsOf_consEv (ev : Ev) (r : Res) : evsOf (consEv ev r) = ev :: evsOf r := by
  rcases r with ⟨_, _⟩ | ⟨_, _⟩ <;> rfl

/-- `Fine` for the field readers, which deliver no events -/
def FineI {α} (x y : Bytes) (r1 r2 : Except DecErr (α × Bytes)) : Prop :=
  match r1 with
  | .ok (a, r) => r.length ≤ x.length ∧ r2 = .ok (a, r ++ y)
  | .error e => e ≠ .noProgress ∧ (e ≠ .eof → r2 = .error e)

/-- a success leaves a rest no longer than `x` and is the same success on `x ++ y`; an error is never `noProgress`
    (the fuel of the model's loops is never the reason); where the input ended, what had been delivered is
    delivered again on `x ++ y`; any other error is there again.  As `FineI`, with the events. -/
def Fine (x y : Bytes) (r1 r2 : Res) : Prop :=
  match r1 with
  | .ok (evs, r) => r.length ≤ x.length ∧ r2 = .ok (evs, r ++ y)
  | .error (e, p) => e ≠ .noProgress ∧ (e = .eof → p <+: evsOf r2) ∧ (e ≠ .eof → r2 = .error (e, p))

theorem Fine.toExt {x y : Bytes} {r1 r2 : Res} (h : Fine x y r1 r2) : Ext y r1 r2 := by
  rcases r1 with ⟨e, p⟩ | ⟨evs, r⟩
  · show if e = .eof then _ else _
    by_cases he : e = .eof
    · rw [if_pos he]; rcases r2 with ⟨_, _⟩ | ⟨_, _⟩ <;> exact h.2.1 he
    · rw [if_neg he]; exact h.2.2 he
  · exact h.2

theorem FineI.len {α} {x y : Bytes} {r1 r2 : Except DecErr (α × Bytes)} {a : α} {r : Bytes} (h : FineI x y r1 r2)
    (h1 : r1 = .ok (a, r)) : r.length ≤ x.length := by
  subst h1; exact h.1

/-- a reader that started later in the input -/
theorem FineI.mono {α} {x x' y : Bytes} {r1 r2 : Except DecErr (α × Bytes)} (hl : x'.length ≤ x.length)
    (h : FineI x' y r1 r2) : FineI x y r1 r2 := by
  unfold FineI at h ⊢
  split at h
  · exact ⟨by omega, h.2⟩
  · exact h

theorem Fine.mono {x x' y : Bytes} {r1 r2 : Res} (hl : x'.length ≤ x.length) (h : Fine x' y r1 r2) :
    Fine x y r1 r2 := by
  unfold Fine at h ⊢
  split at h
  · exact ⟨by omega, h.2⟩
  · exact h

theorem FineI.pure {α} (a : α) (x y : Bytes) : FineI x y (.ok (a, x)) (.ok (a, x ++ y)) := ⟨Nat.le_refl _, rfl⟩

theorem FineI.fail {α} (e : DecErr) (he : e ≠ .noProgress) (x y : Bytes) :
    FineI (α := α) x y (.error e) (.error e) := ⟨he, fun _ => rfl⟩

theorem FineI.eof {α} (x y : Bytes) (r2 : Except DecErr (α × Bytes)) : FineI x y (.error .eof) r2 :=
  ⟨by decide, fun h => (h rfl).elim⟩

theorem Fine.pure (evs : List Ev) (x y : Bytes) : Fine x y (.ok (evs, x)) (.ok (evs, x ++ y)) := ⟨Nat.le_refl _, rfl⟩

theorem Fine.fail (e : DecErr) (h1 : e ≠ .noProgress) (h2 : e ≠ .eof) (x y : Bytes) :
    Fine x y (.error (e, [])) (.error (e, [])) := ⟨h1, fun h => (h2 h).elim, fun _ => rfl⟩

theorem Fine.eof_nil (x y : Bytes) (r2 : Res) : Fine x y (.error (.eof, [])) r2 :=
  ⟨by decide, fun _ => List.nil_prefix, fun h => (h rfl).elim⟩

/-- a test that does not look at the input -/
theorem rel_ite {α β} (R : α → β → Prop) {c : Prop} [Decidable c] {a1 b1 : α} {a2 b2 : β}
    (ha : c → R a1 a2) (hb : ¬ c → R b1 b2) : R (if c then a1 else b1) (if c then a2 else b2) := by
  by_cases h : c
  · rw [if_pos h, if_pos h]; exact ha h
  · rw [if_neg h, if_neg h]; exact hb h

theorem FineI.ite {α} {x y : Bytes} {c : Prop} [Decidable c] {a1 b1 a2 b2 : Except DecErr (α × Bytes)}
    (ha : c → FineI x y a1 a2) (hb : ¬ c → FineI x y b1 b2) :
    FineI x y (if c then a1 else b1) (if c then a2 else b2) := rel_ite (FineI x y) ha hb

theorem Fine.ite {x y : Bytes} {c : Prop} [Decidable c] {a1 b1 a2 b2 : Res}
    (ha : c → Fine x y a1 a2) (hb : ¬ c → Fine x y b1 b2) :
    Fine x y (if c then a1 else b1) (if c then a2 else b2) := rel_ite (Fine x y) ha hb

theorem FineI.bind {α β} {x y : Bytes} {r1 r2 : Except DecErr (α × Bytes)} {g : α × Bytes → Except DecErr (β × Bytes)}
    (h : FineI x y r1 r2) (hg : ∀ a r, r1 = .ok (a, r) → FineI r y (g (a, r)) (g (a, r ++ y))) :
    FineI x y (r1.bind g) (r2.bind g) := by
  cases r1 with
  | error e => exact ⟨h.1, fun he => by rw [h.2 he]; rfl⟩
  | ok q =>
    obtain ⟨hl, rfl⟩ := h
    exact (hg q.1 q.2 rfl).mono hl

/-- a field, then a reader that delivers events -/
def thenE {α} (r : Except DecErr (α × Bytes)) (g : α → Bytes → Res) : Res :=
  match r with
  | .error e => .error (e, [])
  | .ok (a, r) => g a r

/-- the two continuations may differ as long as they correspond: the chunk reader goes on with the fuel
    of its own run on either side -/
theorem Fine.bindE {α} {x y : Bytes} {r1 r2 : Except DecErr (α × Bytes)} {g1 g2 : α → Bytes → Res}
    (h : FineI x y r1 r2) (hg : ∀ a r, r1 = .ok (a, r) → Fine r y (g1 a r) (g2 a (r ++ y))) :
    Fine x y (thenE r1 g1) (thenE r2 g2) := by
  cases r1 with
  | error e => exact ⟨h.1, fun _ => List.nil_prefix, fun he => by rw [h.2 he]; rfl⟩
  | ok q =>
    obtain ⟨hl, rfl⟩ := h
    exact (hg q.1 q.2 rfl).mono hl

/-- the shape of most cases of `decodeTok`.  Inside a declaration named `Fine.xxx` the identifiers `lift`,
    `pure`, `cons` mean `Fine.lift`, `Fine.pure`, `Fine.cons`: write `CE.Cbe.lift`, `Pure.pure` there. -/
theorem Fine.lift {α} {x y : Bytes} {r1 r2 : Except DecErr (α × Bytes)} (g : α → List Ev) (h : FineI x y r1 r2) :
    Fine x y (CE.Cbe.lift (r1.bind fun p => .ok (g p.1, p.2))) (CE.Cbe.lift (r2.bind fun p => .ok (g p.1, p.2))) := by
  have e : ∀ r : Except DecErr (α × Bytes),
      CE.Cbe.lift (r.bind fun p => .ok (g p.1, p.2)) = thenE r fun a r => .ok (g a, r) := fun r => by cases r <;> rfl
  rw [e, e]
  exact Fine.bindE h fun a r _ => Fine.pure _ r y

theorem Fine.cons {x y : Bytes} {r1 r2 : Res} (ev : Ev) (h : Fine x y r1 r2) : Fine x y (consEv ev r1) (consEv ev r2) := by
  unfold Fine at h ⊢
  cases r1 with
  | ok q => obtain ⟨hl, rfl⟩ := h; exact ⟨hl, rfl⟩
  | error q =>
    exact ⟨h.1, fun he => by rw [evsOf_consEv]; exact List.cons_prefix_cons.mpr ⟨rfl, h.2.1 he⟩,
      fun he => by rw [h.2.2 he]; rfl⟩

theorem foldr_consEv_ok (pre evs : List Ev) (r : Bytes) :
    pre.foldr consEv (.ok (evs, r)) = .ok (pre ++ evs, r) := by
  induction pre with
  | nil => rfl
  | cons e pre ih => rw [List.foldr_cons, ih]; rfl

theorem foldr_consEv_error (pre p : List Ev) (e : DecErr) :
    pre.foldr consEv (.error (e, p)) = .error (e, pre ++ p) := by
  induction pre with
  | nil => rfl
  | cons a pre ih => rw [List.foldr_cons, ih]; rfl

theorem Fine.prepend {x y : Bytes} {r1 r2 : Res} (evs : List Ev) (h : Fine x y r1 r2) :
    Fine x y (evs.foldr consEv r1) (evs.foldr consEv r2) := by
  induction evs with
  | nil => exact h
  | cons ev evs ih => exact Fine.cons ev ih

theorem evsOf_prepend (evs : List Ev) (r : Res) : evsOf (evs.foldr consEv r) = evs ++ evsOf r := by
  rcases r with ⟨_, _⟩ | ⟨_, _⟩
  · rw [foldr_consEv_error]; rfl
  · rw [foldr_consEv_ok]; rfl

/-- a reader that delivers events, then a reader that goes on where the first stopped -/
def andThen (r : Res) (k : Bytes → Res) : Res :=
  match r with
  | .error q => .error q
  | .ok (evs, r) => evs.foldr consEv (k r)

/-- as `Fine.bindE`, for a first reader that delivers events itself: they stay delivered whatever the second does -/
theorem Fine.andThen {x y : Bytes} {r1 r2 : Res} {k1 k2 : Bytes → Res} (h : Fine x y r1 r2)
    (hk : ∀ evs r, r1 = .ok (evs, r) → Fine r y (k1 r) (k2 (r ++ y))) :
    Fine x y (CE.Cbe.andThen r1 k1) (CE.Cbe.andThen r2 k2) := by
  cases r1 with
  | ok q => obtain ⟨hl, rfl⟩ := h; exact ((hk q.1 q.2 rfl).prepend q.1).mono hl
  | error q =>
    refine ⟨h.1, fun he => ?_, fun he => by rw [h.2.2 he]; rfl⟩
    -- what the first reader delivered before the input ended comes first in all the pair delivers on `x ++ y`
    rcases r2 with ⟨_, _⟩ | ⟨evs, r⟩
    · exact h.2.1 he
    · exact (h.2.1 he).trans (evsOf_prepend evs _ ▸ List.prefix_append _ _)

theorem fineI_takeN (n : Nat) (x y : Bytes) : FineI x y (takeN n x) (takeN n (x ++ y)) := by
  unfold takeN
  by_cases h : n ≤ x.length
  · have h2 : n ≤ (x ++ y).length := by rw [List.length_append]; omega
    rw [if_pos h, if_pos h2, List.take_append_of_le_length h, List.drop_append_of_le_length h]
    exact ⟨by rw [List.length_drop]; omega, rfl⟩
  · rw [if_neg h]; exact FineI.eof x y _

theorem unulebRaw_append (x : Bytes) : ∀ (v k : Nat) (r : Bytes), unulebRaw x = some (v, k, r) →
    r.length < x.length ∧ ∀ y, unulebRaw (x ++ y) = some (v, k, r ++ y) := by
  fun_induction unulebRaw x <;> intro v k r h <;> cases h
  · rename_i hb; exact ⟨Nat.lt_succ_self _, fun y => by rw [List.cons_append, unulebRaw, if_pos hb]⟩
  · rename_i hb _ _ _ hrec ih
    obtain ⟨hl, hy⟩ := ih _ _ _ hrec
    exact ⟨Nat.lt_succ_of_lt hl, fun y => by rw [List.cons_append, unulebRaw, if_neg hb, hy]⟩

theorem readUleb_eq (m : Nat) (x : Bytes) : readUleb m x =
    match unulebRaw x with
    | none => .error .eof
    | some (v, k, r) => if k ≤ 18 ∧ v < 2 ^ 64 ∧ v ≤ m then .ok (v, r) else .error .tooBig := by
  unfold readUleb unuleb
  cases unulebRaw x with
  | none => rfl
  | some p =>
    obtain ⟨v, k, r⟩ := p
    by_cases h1 : k ≤ 18 ∧ v < 2 ^ 64
    · by_cases h2 : v > m
      · simp [h1, h2]
      · simp [h1, h2]
    · simp only [h1, if_false]
      rw [if_neg (fun h => h1 ⟨h.1, h.2.1⟩)]

theorem fineI_raw {α} (g : Nat → Nat → Bytes → Except DecErr (α × Bytes))
    (hg : ∀ c k r y, FineI r y (g c k r) (g c k (r ++ y))) (x y : Bytes) :
    FineI x y (match unulebRaw x with | none => .error .eof | some (c, k, r) => g c k r)
              (match unulebRaw (x ++ y) with | none => .error .eof | some (c, k, r) => g c k r) := by
  cases hraw : unulebRaw x with
  | none => exact FineI.eof x y _
  | some p =>
    obtain ⟨hl, hy⟩ := unulebRaw_append x p.1 p.2.1 p.2.2 hraw
    rw [hy y]
    exact (hg _ _ _ y).mono (Nat.le_of_lt hl)

theorem fineI_readUleb (m : Nat) (x y : Bytes) : FineI x y (readUleb m x) (readUleb m (x ++ y)) := by
  rw [readUleb_eq, readUleb_eq]
  refine fineI_raw _ (fun v k r y => ?_) x y
  exact FineI.ite (fun _ => FineI.pure _ r y) fun _ => FineI.fail _ (by decide) r y

theorem readUleb_len (m : Nat) (bs : Bytes) (v : Nat) (r : Bytes) (h : readUleb m bs = .ok (v, r)) :
    r.length < bs.length := by
  rw [readUleb_eq] at h
  split at h
  · cases h
  · rename_i hraw
    split at h <;> cases h
    exact (unulebRaw_append bs _ _ _ hraw).1

theorem fineI_readId (x y : Bytes) : FineI x y (readId x) (readId (x ++ y)) :=
  FineI.bind (fineI_readUleb _ x y) fun n r _ =>
    FineI.ite (fun _ => FineI.fail _ (by decide) r y) fun _ => fineI_takeN n r y

theorem fineI_decodeVarInt (neg : Bool) (x y : Bytes) : FineI x y (decodeVarInt neg x) (decodeVarInt neg (x ++ y)) :=
  FineI.bind (fineI_readUleb maxBigIntBytes x y) fun n r _ =>
    FineI.bind (fineI_takeN n r y) fun _ r' _ => FineI.ite (fun _ => FineI.pure _ r' y) fun _ => FineI.pure _ r' y

theorem fineI_decodeDecimal (x y : Bytes) : FineI x y (decodeDecimal x) (decodeDecimal (x ++ y)) := by
  cases hraw : unulebRaw x with
  | none =>
    have : decodeDecimal x = .error .eof := by simp [decodeDecimal, unuleb, hraw]
    rw [this]; exact FineI.eof x y _
  | some p =>
    obtain ⟨f, k, r⟩ := p
    obtain ⟨hl, hy⟩ := unulebRaw_append x f k r hraw
    simp only [decodeDecimal, unuleb, hraw, hy y]
    by_cases hk : k ≤ 18 ∧ f < 2 ^ 64
    · simp only [hk, and_self, if_true]
      refine FineI.mono (Nat.le_of_lt hl) ?_
      -- the six special values, the bound on the exponent field, then the coefficient
      refine FineI.ite (fun _ => FineI.pure _ r y) fun _ => ?_
      refine FineI.ite (fun _ => FineI.pure _ r y) fun _ => ?_
      refine FineI.ite (fun _ => FineI.pure _ r y) fun _ => ?_
      refine FineI.ite (fun _ => FineI.pure _ r y) fun _ => ?_
      refine FineI.ite (fun _ => FineI.pure _ r y) fun _ => ?_
      refine FineI.ite (fun _ => FineI.pure _ r y) fun _ => ?_
      refine FineI.ite (fun _ => FineI.fail _ (by decide) r y) fun _ => ?_
      refine fineI_raw _ (fun c k2 r' y => ?_) r y
      exact FineI.ite (fun _ => FineI.pure _ r' y) fun _ => FineI.pure _ r' y
    · simp only [hk, if_false]; exact FineI.fail _ (by decide) x y

/-- after a chunk whose header is `h`: `k` reads the chunks that follow, if the header announces any -/
def chunkMore (k : Bytes → Res) (h : Nat) (r : Bytes) : Res := if h % 2 == 1 then k r else .ok ([], r)

/-- what the chunk reader does after a header `h` -/
def chunkBody (bits : Nat) (k : Bytes → Res) (h : Nat) (r : Bytes) : Res :=
  if h / 2 > maxInt then .error (.tooLong, [])
  else consEv (.arrayChunk (h / 2) (h % 2 == 1))
    (if elemsToBytes bits (h / 2) % 2 ^ 64 = 0 then chunkMore k h r
     else thenE (takeN (elemsToBytes bits (h / 2) % 2 ^ 64) r) fun d r' => consEv (.arrayData d) (chunkMore k h r'))

/-- unlike `fine_decodeChunks`, no condition on the fuel -/
theorem decodeChunks_succ (bits fuel : Nat) (x : Bytes) : decodeChunks bits (fuel + 1) x =
    thenE (readUleb (2 ^ 64 - 1) x) (chunkBody bits (decodeChunks bits fuel)) := by
  conv => lhs; unfold decodeChunks
  cases readUleb (2 ^ 64 - 1) x with
  | error e => rfl
  | ok p =>
    obtain ⟨h, r⟩ := p
    show _ = chunkBody bits (decodeChunks bits fuel) h r
    unfold chunkBody chunkMore
    dsimp only
    by_cases hmax : h / 2 > maxInt
    · rw [if_pos hmax, if_pos hmax]
    rw [if_neg hmax, if_neg hmax]
    by_cases hz : elemsToBytes bits (h / 2) % 2 ^ 64 = 0
    · rw [if_pos hz, if_pos hz]
      by_cases hm : (h % 2 == 1) = true
      · rw [if_pos hm, if_pos hm]; cases decodeChunks bits fuel r <;> rfl
      · rw [if_neg hm, if_neg hm]; rfl
    rw [if_neg hz, if_neg hz]
    cases takeN (elemsToBytes bits (h / 2) % 2 ^ 64) r with
    | error e => rfl
    | ok q =>
      obtain ⟨d, r'⟩ := q
      dsimp only [thenE]
      by_cases hm : (h % 2 == 1) = true
      · rw [if_pos hm, if_pos hm]; cases decodeChunks bits fuel r' <;> rfl
      · rw [if_neg hm, if_neg hm]; rfl

theorem fine_decodeChunks (bits : Nat) (y : Bytes) : ∀ (f1 f2 : Nat) (x : Bytes), x.length < f1 → (x ++ y).length < f2 →
    Fine x y (decodeChunks bits f1 x) (decodeChunks bits f2 (x ++ y))
  | 0, _, x, h1, _ => by omega
  | _, 0, x, _, h2 => by omega
  | f1 + 1, f2 + 1, x, h1, h2 => by
    have more : ∀ h r, r.length < x.length →
        Fine r y (chunkMore (decodeChunks bits f1) h r) (chunkMore (decodeChunks bits f2) h (r ++ y)) := fun h r hr =>
      Fine.ite (fun _ => fine_decodeChunks bits y f1 f2 r (by omega) (by rw [List.length_append] at h2 ⊢; omega))
        fun _ => Fine.pure [] r y
    rw [decodeChunks_succ, decodeChunks_succ]
    refine Fine.bindE (fineI_readUleb _ x y) fun h r hu => ?_
    have hl := readUleb_len _ _ _ _ hu
    refine Fine.ite (fun _ => Fine.fail _ (by decide) (by decide) r y) fun _ => Fine.cons _ ?_
    refine Fine.ite (fun _ => more h r hl) fun _ => ?_
    exact Fine.bindE (fineI_takeN _ r y) fun d r' ht =>
      Fine.cons _ (more h r' (Nat.lt_of_le_of_lt ((fineI_takeN _ r y).len ht) hl))

/-- the chunk reader as the decoder calls it -/
theorem fine_chunks (bits : Nat) (x y : Bytes) :
    Fine x y (decodeChunks bits (x.length + 1) x) (decodeChunks bits ((x ++ y).length + 1) (x ++ y)) :=
  fine_decodeChunks bits y _ _ x (Nat.lt_succ_self _) (Nat.lt_succ_self _)

theorem fine_decodeArray (t : ArrT) (x y : Bytes) : Fine x y (decodeArray t x) (decodeArray t (x ++ y)) :=
  Fine.cons (.arrayBegin t) (fine_chunks _ x y)

theorem decodeCustom_eq (x : Bytes) : decodeCustom x =
    thenE (readUleb maxCustomType x) fun ct r => consEv (.customBegin .customBinary ct) (decodeChunks 8 (r.length + 1) r) := by
  unfold decodeCustom thenE; cases readUleb maxCustomType x <;> rfl

theorem decodeMedia_eq (x : Bytes) : decodeMedia x =
    thenE (readUleb maxMediaTypeLength x) fun n r => thenE (takeN n r) fun mt r =>
      consEv (.mediaBegin mt) (decodeChunks 8 (r.length + 1) r) := by
  unfold decodeMedia thenE
  cases readUleb maxMediaTypeLength x with
  | error e => rfl
  | ok p => simp only []; cases takeN p.1 p.2 <;> rfl

theorem fine_decodeCustom (x y : Bytes) : Fine x y (decodeCustom x) (decodeCustom (x ++ y)) := by
  rw [decodeCustom_eq, decodeCustom_eq]
  exact Fine.bindE (fineI_readUleb _ x y) fun ct r _ => Fine.cons _ (fine_chunks 8 r y)

theorem fine_decodeMedia (x y : Bytes) : Fine x y (decodeMedia x) (decodeMedia (x ++ y)) := by
  rw [decodeMedia_eq, decodeMedia_eq]
  exact Fine.bindE (fineI_readUleb _ x y) fun n r _ =>
    Fine.bindE (fineI_takeN n r y) fun mt r3 _ => Fine.cons _ (fine_chunks 8 r3 y)

theorem fine_decodePlane7f (x y : Bytes) : Fine x y (decodePlane7f x) (decodePlane7f (x ++ y)) := by
  cases x with
  | nil => exact Fine.eof_nil _ _ _
  | cons c r =>
    refine Fine.mono (x' := r) (Nat.le_succ _) ?_
    simp only [List.cons_append, decodePlane7f]
    cases plane7fShort (c.toNat / 16 * 16) with
    | some at_ => exact Fine.lift (fun d => [Ev.array at_ (c.toNat % 16) d]) (fineI_takeN _ r y)
    | none =>
      simp only []
      refine Fine.ite (fun _ => Fine.lift (fun id => [Ev.marker id]) (fineI_readId r y)) fun _ => ?_
      refine Fine.ite (fun _ => Fine.lift (fun id => [Ev.recordType id]) (fineI_readId r y)) fun _ => ?_
      refine Fine.ite (fun _ => fine_decodeArray _ r y) fun _ => ?_
      refine Fine.ite (fun _ => fine_decodeMedia r y) fun _ => ?_
      cases plane7fArray c.toNat with
      | some at_ => exact fine_decodeArray at_ r y
      | none => exact Fine.fail _ (by decide) (by decide) r y

theorem fine_decodeTok (t : Tok) (x y : Bytes) : Fine x y (decodeTok t x) (decodeTok t (x ++ y)) := by
  cases t
  case decimal => exact Fine.lift (fun e => [e]) (fineI_decodeDecimal x y)
  case posVar => exact Fine.lift (fun e => [e]) (fineI_decodeVarInt false x y)
  case negVar => exact Fine.lift (fun e => [e]) (fineI_decodeVarInt true x y)
  case posFix k => exact Fine.lift (fun d => [Ev.posInt (leNat d)]) (fineI_takeN k x y)
  case negFix k => exact Fine.lift (fun d => [Ev.negInt (leNat d)]) (fineI_takeN k x y)
  case f16 => exact Fine.lift (fun d => [floatFrom32 (leNat d * 65536)]) (fineI_takeN 2 x y)
  case f32 => exact Fine.lift (fun d => [floatFrom32 (leNat d)]) (fineI_takeN 4 x y)
  case f64 => exact Fine.lift (fun d => [Ev.float (F.canonNaN (leNat d))]) (fineI_takeN 8 x y)
  case uid => exact Fine.lift (fun d => [Ev.uid d]) (fineI_takeN 16 x y)
  case record => exact Fine.lift (fun id => [Ev.record id]) (fineI_readId x y)
  case localRef => exact Fine.lift (fun id => [Ev.refLocal id]) (fineI_readId x y)
  case shortStr n => exact Fine.lift (fun d => [Ev.array .string n d]) (fineI_takeN n x y)
  case str => exact fine_decodeArray .string x y
  case rid => exact fine_decodeArray .rid x y
  case arrBit => exact fine_decodeArray .bit x y
  case arrU8 => exact fine_decodeArray .u8 x y
  case custom => exact fine_decodeCustom x y
  case plane7f => exact fine_decodePlane7f x y
  case time => exact Fine.fail _ (by decide) (by decide) x y
  case bad => exact Fine.fail _ (by decide) (by decide) x y
  all_goals exact Fine.pure _ x y

/-- one iteration of the main loop; the rest is no longer than the input without its type byte, so shorter than
    the input -/
theorem fine_decodeOne (b : UInt8) (r y : Bytes) : Fine r y (decodeOne (b :: r)) (decodeOne (b :: (r ++ y))) :=
  fine_decodeTok _ r y

end CE.Cbe

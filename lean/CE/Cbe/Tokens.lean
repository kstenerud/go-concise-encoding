import CE.Cbe.Reads
import CE.Canon
/-
  Documents piece by piece.  A piece of a document is sent as the events `L`, written as the bytes `B` from any
  encoder state (`Writes L B`) and read back as the events `D`, where `D` is written as the same bytes (`Writes D B`)
  and carries the same data (`CanonSame L D`): `Piece L D`.  Every clause speaks of what follows the piece, so pieces
  compose (`Piece.append`), and a piece between the document's frame is a document that encodes, decodes to the end,
  re-encodes to the same bytes and carries the same data (`Piece.document`).  A token is a piece whose bytes ONE
  decoder step reads back (`Reads B D`, `Piece.token`).  For a token sent as one event `e`, the facts that do not
  concern the decoder are `Stands D e`; where `D` is one event too they are two equations about the two events alone
  (`Stands.one`).
-/
namespace CE.Cbe

def ReadsAll (bs : Bytes) (evs : List Ev) : Prop :=
  ∀ fuel, bs.length ≤ fuel → decodeLoop fuel bs = (evs ++ [.endDoc], none)

theorem ReadsAll.nil : ReadsAll [] [] := fun fuel _ => by cases fuel <;> rfl

theorem Reads.cons {b R : Bytes} {es tail : List Ev} (h : Reads b es) (ht : ReadsAll R tail) :
    ReadsAll (b ++ R) (es ++ tail) := by
  intro fuel hf
  obtain ⟨x, b', rfl⟩ := List.exists_cons_of_ne_nil h.ne_nil
  cases fuel with
  | zero => exact absurd hf (Nat.not_succ_le_zero _)
  | succ fuel =>
    have hR : R.length ≤ fuel :=
      Nat.le_trans (List.length_append ▸ Nat.le_add_left _ _) (Nat.le_of_succ_le_succ hf)
    have hdec := h R
    simp only [List.cons_append] at hdec ⊢
    simp only [decodeLoop, hdec, ht fuel hR, List.append_assoc]

theorem ReadsAll.decode {bs : Bytes} {evs : List Ev} (h : ReadsAll bs evs) :
    decode (u8 signature :: (uleb 0 ++ bs)) = (.beginDoc :: .version 0 :: (evs ++ [.endDoc]), none) := by
  have hsig : ¬ (u8 signature).toNat ≠ signature := by decide
  have hv : readUleb (2 ^ 64 - 1) (uleb 0 ++ bs) = .ok (0, bs) := readUleb_uleb _ 0 (by decide) (by decide) bs
  simp only [CE.Cbe.decode, hsig, if_false, hv, h _ (Nat.le_refl _)]
  simp

theorem encodeFrom_append (l1 l2 : List Ev) (st : EncSt) :
    (encodeFrom st l1).2.1 = none →
    encodeFrom st (l1 ++ l2) =
      ((encodeFrom st l1).1 ++ (encodeFrom (encodeFrom st l1).2.2 l2).1,
       (encodeFrom (encodeFrom st l1).2.2 l2).2.1, (encodeFrom (encodeFrom st l1).2.2 l2).2.2) := by
  fun_induction encodeFrom st l1 <;> intro h
  · rfl
  · cases h
  · rename_i he _ _ _ hrec ih
    rw [hrec] at ih
    simp only [List.cons_append, encodeFrom, he, ih h, List.append_assoc]

/-- from any state outside an array header the encoder writes exactly `B` for the events `L` and goes on
    with what follows, again outside an array header -/
def Writes (L : List Ev) (B : Bytes) : Prop :=
  ∀ (st : EncSt) (tail : List Ev), st.trySmall = false → ∃ st', st'.trySmall = false ∧
    encodeFrom st (L ++ tail) = (B ++ (encodeFrom st' tail).1, (encodeFrom st' tail).2.1, (encodeFrom st' tail).2.2)

theorem Writes.nil : Writes [] [] := fun st _ h => ⟨st, h, rfl⟩

theorem Writes.append {L1 L2 : List Ev} {B1 B2 : Bytes} (h1 : Writes L1 B1) (h2 : Writes L2 B2) :
    Writes (L1 ++ L2) (B1 ++ B2) := by
  intro st tail hst
  obtain ⟨st1, k1, e1⟩ := h1 st (L2 ++ tail) hst
  obtain ⟨st2, k2, e2⟩ := h2 st1 tail k1
  exact ⟨st2, k2, by rw [List.append_assoc, e1, e2, List.append_assoc]⟩

theorem Writes.of_encodeEv {e : Ev} {B : Bytes} (h : ∀ st, encodeEv st e = .ok (st, B)) : Writes [e] B :=
  fun st tail hst => ⟨st, hst, by simp only [List.singleton_append, encodeFrom, h st]⟩

theorem Writes.encode {L : List Ev} {B : Bytes} (h : Writes L B) :
    CE.Cbe.encode (Ev.beginDoc :: Ev.version 0 :: (L ++ [Ev.endDoc])) = (u8 signature :: (uleb 0 ++ B), none) := by
  obtain ⟨st', k, e⟩ := h {} [Ev.endDoc] rfl
  simp [CE.Cbe.encode, encodeFrom, encodeEv.eq_def, e, k]

theorem Writes.run {L : List Ev} {B : Bytes} (h : Writes L B) (st : EncSt) (hst : st.trySmall = false) :
    (encodeFrom st L).1 = B ∧ (encodeFrom st L).2.1 = none ∧ (encodeFrom st L).2.2.trySmall = false := by
  obtain ⟨st', k, e⟩ := h st [] hst
  simp only [List.append_nil, encodeFrom] at e
  simp [e, k]

/-- the next event is not a stray array chunk or data event -/
def clean : List Ev → Bool
  | .arrayChunk _ _ :: _ => false
  | .arrayData _ :: _ => false
  | _ => true

theorem gather_clean (xs : List Ev) (cs : List Nat) (d : Bytes) (h : clean xs = true) :
    gather xs cs d = (cs, d, xs) := by
  fun_cases gather xs cs d with
  | case1 n _ es => exact Bool.noConfusion h
  | case2 x es => exact Bool.noConfusion h
  | case3 => rfl

theorem canon_arrayBegin (k : Bool) (t : ArrT) (es : List Ev) :
    canon k (.arrayBegin t :: es) =
      canonArr t (gather es [] []).1 (gather es [] []).2.1 :: canon k (gather es [] []).2.2 := canon.eq_def k _

theorem canon_mediaBegin (k : Bool) (mt : Bytes) (es : List Ev) :
    canon k (.mediaBegin mt :: es) = .media mt (gather es [] []).2.1 :: canon k (gather es [] []).2.2 := canon.eq_def k _

theorem canon_customBegin (k : Bool) (a : ArrT) (ty : Nat) (es : List Ev) :
    canon k (.customBegin a ty :: es) =
      .custom (a == .customText) ty (gather es [] []).2.1 :: canon k (gather es [] []).2.2 := canon.eq_def k _

theorem canon_array (k : Bool) (t : ArrT) (c : Nat) (d : Bytes) (es : List Ev) :
    canon k (.array t c d :: es) = canonArr t [c] d :: canon k es := canon.eq_def k _

/-- sent `L` and delivered `D` carry the same data in front of any continuations that do, and neither
    leaves its continuation inside an array -/
def CanonSame (L D : List Ev) : Prop :=
  ∀ xs ys, clean xs = true → clean ys = true → canon false xs = canon false ys →
    canon false (D ++ xs) = canon false (L ++ ys) ∧ clean (D ++ xs) = true ∧ clean (L ++ ys) = true

/-- the events `canon` translates one at a time: all but the begin, chunk and data events of an array in chunks -/
def flat : Ev → Bool
  | .arrayBegin _ | .mediaBegin _ | .customBegin _ _ | .arrayChunk _ _ | .arrayData _ => false
  | _ => true

theorem canon_flat {e : Ev} (h : flat e = true) (es : List Ev) :
    canon false (e :: es) = canon false [e] ++ canon false es := by
  cases e with
  | arrayBegin _ | mediaBegin _ | customBegin _ _ | arrayChunk _ _ | arrayData _ => exact Bool.noConfusion h
  | bigInt o | bigFloat o | bigDecimal o => cases o <;> simp [canon]
  | _ => simp [canon]

theorem clean_flat {e : Ev} (h : flat e = true) (es : List Ev) : clean (e :: es) = true := by
  cases e <;> first | rfl | exact Bool.noConfusion h

/-- the events `D` stand for the event `e`: in every state the encoder writes the same bytes `B` for `e` and stays
    in its state, `D` is written as `B` too, and both carry the same data -/
def Stands (D : List Ev) (e : Ev) : Prop :=
  (∃ B, (∀ st, encodeEv st e = .ok (st, B)) ∧ Writes D B) ∧ CanonSame [e] D

/-- one event for another, by equations that do not mention what follows -/
theorem Stands.one {n e : Ev} {B : Bytes} (hn : flat n = true) (he : flat e = true)
    (hB : ∀ st, encodeEv st e = .ok (st, B)) (henc : ∀ st, encodeEv st n = .ok (st, B))
    (hc : canon false [n] = canon false [e]) : Stands [n] e :=
  ⟨⟨B, hB, .of_encodeEv henc⟩, fun xs ys _ _ hxy =>
    ⟨by rw [List.singleton_append, List.singleton_append, canon_flat hn, canon_flat he, hc, hxy],
      clean_flat hn xs, clean_flat he ys⟩⟩

theorem Stands.self {e : Ev} {B : Bytes} (he : flat e = true) (hB : ∀ st, encodeEv st e = .ok (st, B)) : Stands [e] e :=
  .one he he hB hB rfl

/-- `R`, `tail`: what follows, read to the end -/
def Piece (L D : List Ev) : Prop :=
  (∃ B, Writes L B ∧ Writes D B ∧ ∀ R tail, ReadsAll R tail → ReadsAll (B ++ R) (D ++ tail)) ∧ CanonSame L D

theorem Piece.token {L D : List Ev} {B : Bytes} (w : Writes L B) (v : Writes D B) (r : Reads B D)
    (c : CanonSame L D) : Piece L D := ⟨⟨B, w, v, fun _ _ => r.cons⟩, c⟩

theorem Piece.nil : Piece [] [] := ⟨⟨[], .nil, .nil, fun _ _ h => h⟩, fun _ _ hx hy h => ⟨h, hx, hy⟩⟩

theorem Piece.append {L1 L2 D1 D2 : List Ev} (h1 : Piece L1 D1) (h2 : Piece L2 D2) :
    Piece (L1 ++ L2) (D1 ++ D2) := by
  obtain ⟨⟨B1, w1, v1, r1⟩, c1⟩ := h1
  obtain ⟨⟨B2, w2, v2, r2⟩, c2⟩ := h2
  refine ⟨⟨B1 ++ B2, w1.append w2, v1.append v2, fun R tail h => ?_⟩, fun xs ys hx hy h => ?_⟩
  · simpa only [List.append_assoc] using r1 _ _ (r2 R tail h)
  · obtain ⟨i1, i2, i3⟩ := c2 xs ys hx hy h
    simpa only [List.append_assoc] using c1 _ _ i2 i3 i1

theorem Piece.flatMap {α} (L D : α → List Ev) : ∀ ts : List α, (∀ t ∈ ts, Piece (L t) (D t)) →
    Piece (ts.flatMap L) (ts.flatMap D)
  | [], _ => .nil
  | t :: ts, h => by
    simpa only [List.flatMap_cons] using
      (h t (by simp)).append (Piece.flatMap L D ts fun x hx => h x (by simp [hx]))

theorem Piece.document {L D : List Ev} (h : Piece L D) :
    let doc := Ev.beginDoc :: Ev.version 0 :: (L ++ [Ev.endDoc])
    let back := Ev.beginDoc :: Ev.version 0 :: (D ++ [Ev.endDoc])
    encode doc = (u8 signature :: (uleb 0 ++ (encodeFrom {} L).1), none) ∧
    decode (encode doc).1 = (back, none) ∧ encode back = encode doc ∧ canon false back = canon false doc := by
  obtain ⟨⟨B, w1, w2, r⟩, hc⟩ := h
  have r := r [] [] .nil
  rw [List.append_nil, List.append_nil] at r
  refine ⟨by rw [w1.encode, (w1.run {} rfl).1], ?_, ?_, ?_⟩
  · rw [w1.encode, r.decode]
  · rw [w1.encode, w2.encode]
  · simp only [canon, (hc [.endDoc] [.endDoc] rfl rfl rfl).1]

end CE.Cbe

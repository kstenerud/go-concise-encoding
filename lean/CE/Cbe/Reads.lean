import CE.Cbe.Encode
import CE.Cbe.Fine
/-
  Single tokens.  `Reads b es`: one decoder step reads the token `b` back as the events `es` and leaves whatever
  follows untouched (the encoding is a prefix code).  Integers: `IntForm`.  The document theorems are in
  CE/Cbe/Stream.lean and CE/Cbe/Items.lean.
-/
namespace CE.Cbe

theorem u8_toNat (n : Nat) (h : n < 256) : (u8 n).toNat = n := toUInt8_toNat_lt n h

theorem takeN_append (d rest : Bytes) : takeN d.length (d ++ rest) = .ok (d, rest) := by
  simp [takeN]

theorem takeN_short (k : Nat) (d : Bytes) (h : d.length < k) : takeN k d = .error .eof := by
  simp [takeN]; omega

theorem takeN_leBytes (k n : Nat) (rest : Bytes) :
    takeN k (leBytes k n ++ rest) = .ok (leBytes k n, rest) := by
  have := takeN_append (leBytes k n) rest
  simpa using this

theorem readUleb_uleb (m n : Nat) (hm : n ≤ m) (h : n < 2 ^ 64) (rest : Bytes) :
    readUleb m (uleb n ++ rest) = .ok (n, rest) := by
  rw [readUleb_eq, unulebRaw_uleb]
  exact if_pos ⟨by have := ulebLen_u64 n h; omega, h, hm⟩

/-- what the decoder emits for an encoded non-negative integer -/
def renormPos (n : Nat) : Ev := if n ≤ smallIntMax then .int n else .posInt n

/-- what the decoder emits for an encoded negative-integer event (magnitude n) -/
def renormNeg (n : Nat) : Ev :=
  if n = 0 then .negInt 0 else if n ≤ smallIntMax then .int (-(n : Int)) else .negInt n

theorem byteLen_le_iff (n k : Nat) : byteLen n ≤ k ↔ n < 256 ^ k := by
  induction k generalizing n with
  | zero => unfold byteLen; split <;> omega
  | succ k ih =>
    unfold byteLen
    split
    · have := Nat.pow_pos (n := k + 1) (show 0 < 256 by decide); omega
    · rw [Nat.add_comm, Nat.add_le_add_iff_right, ih, Nat.pow_succ, Nat.div_lt_iff_lt_mul (by decide)]

theorem byteLen_le (n k : Nat) (h : n < 256 ^ k) : byteLen n ≤ k := (byteLen_le_iff n k).2 h

theorem byteLen_ge (n k : Nat) (h : 256 ^ k ≤ n) : k + 1 ≤ byteLen n :=
  Nat.lt_of_not_le fun hle => Nat.not_lt.2 h ((byteLen_le_iff n k).1 hle)

theorem byteLen_le_8 (n : Nat) (h : n < 2 ^ 64) : byteLen n ≤ 8 := byteLen_le n 8 (by simpa using h)

theorem lt_pow_byteLen (n : Nat) : n < 256 ^ byteLen n := (byteLen_le_iff n _).1 (Nat.le_refl _)

theorem leNat_leBytes_byteLen (n : Nat) : leNat (leBytes (byteLen n) n) = n := by
  rw [leNat_leBytes, Nat.mod_eq_of_lt (lt_pow_byteLen n)]

/-- the named type codes occupy 101 .. 155 (0x65 .. 0x9b; 0x80 .. 0x8f are the short strings): everything up to
    100 and from 156 on is a small integer -/
theorem classify_small : ∀ n, n ≤ 100 → classify n = .small n := by decide +kernel
theorem classify_smallNeg : ∀ n, n < 256 → 156 ≤ n → classify n = .small ((n : Int) - 256) := by
  decide +kernel

@[simp] theorem lift_ok {α} (a : α) : lift (.ok a : Except DecErr α) = .ok a := rfl

def Reads (b : Bytes) (es : List Ev) : Prop := ∀ rest, decodeOne (b ++ rest) = .ok (es, rest)

theorem Reads.ne_nil {b : Bytes} {es : List Ev} (h : Reads b es) : b ≠ [] := by
  intro hb
  have := h []
  rw [hb] at this
  cases this

theorem Reads.spec {b : Bytes} {es : List Ev} (h : Reads b es) (rest : Bytes) :
    b ≠ [] ∧ decodeOne (b ++ rest) = .ok (es, rest) := ⟨h.ne_nil, h rest⟩

theorem reads_tok {t : UInt8} {tok : Tok} (hc : classify t.toNat = tok) {b : Bytes} {es : List Ev}
    (h : ∀ rest, decodeTok tok (b ++ rest) = .ok (es, rest)) : Reads (t :: b) es := by
  intro rest
  rw [List.cons_append, decodeOne, hc, h]

/-- a type byte followed by one field; `htok` is the defining equation of `decodeTok` at that type
    (`fun _ => rfl`), from which `f` and `g` are read off -/
theorem reads_field {α} {t : UInt8} {tok : Tok} (hc : classify t.toNat = tok)
    {f : Bytes → Except DecErr (α × Bytes)} {g : α → Ev}
    (htok : ∀ r, decodeTok tok r = lift (do let (a, r') ← f r; pure ([g a], r')))
    {b : Bytes} {a : α} (hf : ∀ rest, f (b ++ rest) = .ok (a, rest)) : Reads (t :: b) [g a] :=
  reads_tok hc fun rest => by rw [htok, hf]; rfl

theorem byteLen_lt_128 (v : Nat) (h : v < 2 ^ 64) : byteLen v < 128 := by
  have := byteLen_le_8 v h
  omega

theorem decodeVarInt_typed (neg : Bool) (m : Nat) (hL : byteLen m ≤ maxBigIntBytes) (rest : Bytes) :
    decodeVarInt neg (uleb (byteLen m) ++ (leBytes (byteLen m) m ++ rest)) =
      .ok (if byteLen m ≤ 8 then (if neg then Ev.negInt m else Ev.posInt m)
           else Ev.bigInt (some (if neg then -(m : Int) else (m : Int))), rest) := by
  unfold decodeVarInt
  rw [readUleb_uleb _ _ hL (Nat.lt_of_le_of_lt hL (by decide))]
  simp only [bind, Except.bind, takeN_leBytes, leNat_leBytes_byteLen]
  by_cases h8 : byteLen m ≤ 8
  · rw [if_pos h8, if_pos h8]
  · rw [if_neg h8, if_neg h8]

theorem uleb_lt (n : Nat) (h : n < 128) : uleb n = [u8 n] := by
  rw [uleb, if_pos h]; rfl

/-- the forms in which the integer event `ev` is written: in the type byte itself, under a type byte that fixes
    the width, or under a type byte followed by a length byte.  Reading back and cutting (C09) are shown of the
    forms; the encoder's chain of width tests is walked once per sign (`encPosInt_form`, `encNegInt_form`). -/
inductive IntForm : Ev → Bytes → Prop
  | small (t : UInt8) (i : Int) (hc : classify t.toNat = .small i) : IntForm (.int i) [t]
  | fix (neg : Bool) (n tag w : Nat) (hc : classify (u8 tag).toNat = if neg then .negFix w else .posFix w)
      (hn : n < 256 ^ w) : IntForm (if neg then .negInt n else .posInt n) (u8 tag :: leBytes w n)
  | var (neg : Bool) (n tag : Nat) (hc : classify (u8 tag).toNat = if neg then .negVar else .posVar)
      (hn : n < 2 ^ 64) :
      IntForm (if neg then .negInt n else .posInt n) (u8 tag :: u8 (byteLen n) :: leBytes (byteLen n) n)

theorem IntForm.reads {ev : Ev} {bs : Bytes} (hf : IntForm ev bs) : Reads bs [ev] := by
  cases hf with
  | small t i hc => exact reads_tok hc (b := []) fun _ => rfl
  | fix neg n tag w hc hn =>
    cases neg
    · have := reads_field (g := fun d => Ev.posInt (leNat d)) hc (fun _ => rfl) (takeN_leBytes w n)
      rwa [leNat_leBytes_lt w n hn] at this
    · have := reads_field (g := fun d => Ev.negInt (leNat d)) hc (fun _ => rfl) (takeN_leBytes w n)
      rwa [leNat_leBytes_lt w n hn] at this
  | var neg n tag hc hn =>
    have hb := byteLen_le_8 n hn
    have hd := fun neg rest => decodeVarInt_typed neg n (Nat.le_trans hb (by decide)) rest
    simp only [uleb_lt _ (byteLen_lt_128 n hn), if_pos hb] at hd
    cases neg <;> exact reads_field (g := id) hc (fun _ => rfl) (hd _)

theorem leBytes_one (n : Nat) (h : n < 256) : leBytes 1 n = [u8 n] := by
  simp [leBytes, u8, Nat.mod_eq_of_lt h]

theorem encPosInt_form (n : Nat) (h : n < 2 ^ 64) : IntForm (renormPos n) (encPosInt n) := by
  unfold encPosInt renormPos
  by_cases hs : n ≤ smallIntMax
  · rw [if_pos hs, if_pos hs]
    exact .small _ _ (by rw [u8_toNat n (Nat.lt_of_le_of_lt hs (by decide)), classify_small n hs])
  rw [if_neg hs, if_neg hs]
  by_cases h1 : n ≤ 0xff
  · rw [if_pos h1]
    exact leBytes_one n (Nat.lt_succ_of_le h1) ▸ .fix false n _ 1 (by decide) (Nat.lt_succ_of_le h1)
  rw [if_neg h1]
  by_cases h2 : n ≤ 0xffff
  · rw [if_pos h2]
    exact .fix false n _ 2 (by decide) (Nat.lt_succ_of_le h2)
  rw [if_neg h2]
  by_cases h4 : n ≤ 0xffffffff
  · rw [if_pos h4]
    exact .fix false n _ 4 (by decide) (Nat.lt_succ_of_le h4)
  rw [if_neg h4]
  by_cases h6 : n < 2 ^ 48
  · rw [if_pos h6]
    exact .var false n _ (by decide) h
  · rw [if_neg h6]
    exact .fix false n _ 8 (by decide) h

/-- negative zero has a form of its own; otherwise as for the non-negative integers -/
theorem encNegInt_form (n : Nat) (h : n < 2 ^ 64) : IntForm (renormNeg n) (encNegInt n) := by
  unfold encNegInt renormNeg
  by_cases h0 : n = 0
  · rw [if_pos h0, if_pos h0]; exact .fix true 0 _ 1 (by decide) (by decide)
  rw [if_neg h0, if_neg h0]
  by_cases hs : n ≤ smallIntMax
  · have hs' : n ≤ 100 := hs
    have e : ((256 - n : Nat) : Int) - 256 = -(n : Int) := by omega
    have hlt : 256 - n < 256 := Nat.sub_lt (by decide) (Nat.pos_of_ne_zero h0)
    have hge : 156 ≤ 256 - n := Nat.le_sub_of_add_le (Nat.add_le_add_left hs 156)
    rw [if_pos hs, if_pos hs]
    exact .small _ _ (by rw [u8_toNat _ hlt, classify_smallNeg (256 - n) hlt hge, e])
  rw [if_neg hs, if_neg hs]
  by_cases h1 : n ≤ 0xff
  · rw [if_pos h1]
    exact leBytes_one n (Nat.lt_succ_of_le h1) ▸ .fix true n _ 1 (by decide) (Nat.lt_succ_of_le h1)
  rw [if_neg h1]
  by_cases h2 : n ≤ 0xffff
  · rw [if_pos h2]
    exact .fix true n _ 2 (by decide) (Nat.lt_succ_of_le h2)
  rw [if_neg h2]
  by_cases h4 : n ≤ 0xffffffff
  · rw [if_pos h4]
    exact .fix true n _ 4 (by decide) (Nat.lt_succ_of_le h4)
  rw [if_neg h4]
  by_cases h6 : n < 2 ^ 48
  · rw [if_pos h6]
    exact .var true n _ (by decide) h
  · rw [if_neg h6]
    exact .fix true n _ 8 (by decide) h

theorem reads_encPosInt (n : Nat) (h : n < 2 ^ 64) : Reads (encPosInt n) [renormPos n] := (encPosInt_form n h).reads

theorem reads_encNegInt (n : Nat) (h : n < 2 ^ 64) : Reads (encNegInt n) [renormNeg n] := (encNegInt_form n h).reads

end CE.Cbe

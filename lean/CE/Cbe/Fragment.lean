import CE.Cbe.Chunks
import CE.Basic.FloatProofs
/-
  The structural fragment of the event alphabet (`simple`), event by event, in two case analyses.  The decoder's
  side (`reads_simple`): one decoder step reads the bytes the encoder writes for `e` back as the decoder's normal
  form `renorm e`, whatever follows.  The encoder's side (`renorm_stands`): `renorm e` stands for `e`, that is, it is
  written as the same bytes and carries the same data; this needs none of the fragment's bounds on values, which
  are the decoder's.  NOT in the fragment: float32-subnormal doubles, times and bit arrays (their per-event behaviour is
  tied by the CBE.ENC / CBE.DEC correspondence and the round-trip oracle of `bin/check C01` only).
-/
namespace CE.Cbe

open CE.F in
/-- floats whose narrowing (if any) stays in the float32 normal range -/
def floatOK (b : Nat) : Bool :=
  decide (b < 2 ^ 64) && !(decide (874 ≤ exp64 b) && decide (exp64 b < 897) && (exactF32? b).isSome)

open CE.F in
def renormFloat (b : Nat) : List Ev :=
  if isInf64 b then [.dfloat (if sign64 b == 1 then .negInf else .inf)]
  else if isNaN64 b then [.dfloat (if quiet64 b then .nan else .snan)]
  else if isZero64 b then (if sign64 b == 1 then [.negInt 0] else [.int 0])
  else [.float b]


/-- decimal floats within the ranges of their Go types (exponent int32, coefficient int64) short of the two
    extreme values -2^31 and -2^63 -/
def dfOK : DF → Bool
  | .val e c => decide (e.natAbs < 2 ^ 31) && decide (c.natAbs < 2 ^ 63)
  | _ => true

def renormDF : DF → List Ev
  | .zero => [.int 0]
  | .negZero => [.negInt 0]
  | .val e c => if c = 0 then [.int 0] else [.dfloat (.val e c)]
  | d => [.dfloat d]

/-- big decimals: any coefficient, exponent within int32 -/
def bdOK : BigDec → Bool
  | .val _ _ e => decide (e.natAbs < 2 ^ 31)
  | _ => true

def renormBD : BigDec → List Ev
  | .val neg c e =>
    if c = 0 then (if neg then [.negInt 0] else [.int 0])
    else if c < 2 ^ 63 then [.dfloat (.val e (if neg then -(c : Int) else c))]
    else [.bigDecimal (some (.val neg c e))]
  | .inf neg => [.dfloat (if neg then .negInf else .inf)]
  | .nan => [.dfloat .nan]
  | .snan => [.dfloat .snan]

/-- the events of the fragment.  The bounds: 8192 bits (`maxBigIntBytes` bytes) and `maxIdentifierLength` are the
    decoder's maxima; `2 ^ 61` bytes and `2 ^ 56` elements are what the chunk loop's uint64 bit arithmetic allows
    (`chunkFits`, `chunkOK`) -/
def simple : Ev → Bool
  | .null | .true_ | .false_ | .bool _ | .padding | .comment _ _ | .bigInt none
  | .list | .map | .edge | .node | .endContainer => true
  | .posInt n | .negInt n => decide (n < 2 ^ 64)
  | .int i => decide (-(2 : Int) ^ 63 ≤ i ∧ i < 2 ^ 63)
  | .float b => floatOK b
  | .dfloat d => dfOK d
  | .bigDecimal none => true
  | .bigDecimal (some d) => bdOK d
  | .bigInt (some i) => decide (i.natAbs < 2 ^ 8192)
  | .marker id | .refLocal id | .record id | .recordType id =>
    decide (0 < id.length ∧ id.length ≤ maxIdentifierLength)
  | .uid b => decide (b.length = 16)
  | .stringlike t s => (t == .string || t == .rid) && decide (s.length < 2 ^ 61)
  | .array t c d => typedArr t && decide (d.length = c * (t.elemBits / 8)) && decide (c < 2 ^ 56)
  | _ => false

/-- what the decoder emits for the encoding of a fragment event -/
def renorm : Ev → List Ev
  | .comment _ _ => []
  | .bool b => [if b then .true_ else .false_]
  | .bigInt none => [.null]
  | .bigInt (some i) =>
    if i.natAbs < 2 ^ 64 then (if 0 ≤ i then [renormPos i.natAbs] else [renormNeg i.natAbs]) else [.bigInt (some i)]
  | .float b => renormFloat b
  | .dfloat d => renormDF d
  | .bigDecimal none => [.null]
  | .bigDecimal (some d) => renormBD d
  | .posInt n => [renormPos n]
  | .negInt n => [renormNeg n]
  | .int i => if 0 ≤ i then [renormPos i.toNat] else [renormNeg (-i).toNat]
  | .stringlike t s =>
    if t = .string ∧ s.length ≤ maxSmallArrayLength then [.array .string s.length s]
    else if s.length = 0 then [.arrayBegin t, .arrayChunk 0 false]
    else [.arrayBegin t, .arrayChunk s.length false, .arrayData s]
  | .array t c d =>
    if (shortCode t).isSome = true ∧ c ≤ maxSmallArrayLength then [.array t c d]
    else if c = 0 then [.arrayBegin t, .arrayChunk 0 false]
    else [.arrayBegin t, .arrayChunk c false, .arrayData d]
  | e => [e]

theorem readId_encId (id rest : Bytes) (h0 : 0 < id.length) (h1 : id.length ≤ maxIdentifierLength) :
    readId (encId id ++ rest) = .ok (id, rest) := by
  have hlt : id.length < 2 ^ 64 := by simp [maxIdentifierLength] at h1; omega
  have hne : ¬ id.length = 0 := by omega
  simp only [readId, encId, List.append_assoc, readUleb_uleb _ _ h1 hlt, bind, Except.bind, hne, if_false]
  exact takeN_append id rest


theorem renorm_array (t : ArrT) (c : Nat) (d : Bytes) : renorm (.array t c d) = groupBack t [] (whole c d) := by
  simp only [renorm, ← smallHeader_isSome, groupBack, whole_count, whole_data, chunksBack, chunkBack]
  rcases hsm : smallHeader t c with _ | h
  · by_cases h0 : c = 0 <;> simp [h0]
  · simp

/-- an array of the fragment sent as the one event `e` is the group of its one chunk: what comes back stands for `e`,
    and one decoder step reads it from the bytes of `e` -/
theorem whole_event {t : ArrT} {c : Nat} {d : Bytes} {e : Ev} (hf : frag t = true)
    (hfit : chunkFits (t.elemBits / 8) (whole c d))
    (henc : ∀ st, encodeEv st e = (encArrayWhole t c d).bind fun bs => .ok (st, bs)) (he : flat e = true)
    (hc : canon false [e] = [CEv.arr t d]) :
    Stands (groupBack t [] (whole c d)) e ∧
    ∀ st bs, encodeEv st e = .ok (st, bs) → Reads bs (groupBack t [] (whole c d)) := by
  obtain ⟨hd, hah, -⟩ := decodeOne_arrayHeader t hf
  obtain ⟨w, r⟩ := back_group t hf hd hah [] _ (by simp) hfit
  have hB : ∀ st, encodeEv st e = .ok (st, groupBytes t hd [] (whole c d)) := fun st => by
    rw [henc, encArrayWhole_eq t c d hd hah]; rfl
  refine ⟨⟨⟨_, hB, w⟩, fun xs ys hx _ hxy => ⟨?_, clean_groupBack _ _ _ _, clean_flat he ys⟩⟩, fun st bs h => ?_⟩
  · rw [canon_groupBack t hf [] _ (by simp) hfit xs hx, chunkData_whole, List.singleton_append, canon_flat he, hc, hxy]
    rfl
  · rw [hB st] at h
    cases h
    exact r

theorem whole_array {t : ArrT} {c : Nat} {d : Bytes} (h : simple (.array t c d) = true) :
    Stands (renorm (.array t c d)) (.array t c d) ∧
    ∀ st bs, encodeEv st (.array t c d) = .ok (st, bs) → Reads bs (renorm (.array t c d)) := by
  unfold simple at h
  simp only [Bool.and_eq_true, decide_eq_true_eq] at h
  obtain ⟨⟨ht, hlen⟩, hc56⟩ := h
  have hf := frag_of_typedArr ht
  rw [renorm_array]
  exact whole_event hf ((show chunkOK _ _ from ⟨hc56, by rw [whole_data]; exact hlen⟩).fits_frag hf) (fun _ => rfl) rfl
    (by simp [canon, canonArr_nonbit t (frag_ne_bit hf)])

theorem whole_stringlike {t : ArrT} {s : Bytes} (h : simple (.stringlike t s) = true) :
    Stands (renorm (.stringlike t s)) (.stringlike t s) ∧
    ∀ st bs, encodeEv st (.stringlike t s) = .ok (st, bs) → Reads bs (renorm (.stringlike t s)) := by
  unfold simple at h
  simp only [Bool.and_eq_true, Bool.or_eq_true, beq_iff_eq, decide_eq_true_eq] at h
  obtain ⟨ht, hlen⟩ := h
  have hf : frag t = true := by rcases ht with rfl | rfl <;> rfl
  have hw : t.elemBits / 8 = 1 := by rcases ht with rfl | rfl <;> rfl
  have hre : renorm (.stringlike t s) = renorm (.array t s.length s) := by
    rcases ht with rfl | rfl <;> simp [renorm, shortCode]
  rw [hre, renorm_array]
  exact whole_event hf ⟨by rw [hw]; simpa using hlen, by simp [hw]⟩ (fun _ => rfl) rfl (by simp [canon])

theorem encBigInt_bytes (i : Int) :
    (encBigInt i).1 =
      if i.natAbs < 2 ^ 64 then (if 0 ≤ i then encPosInt i.natAbs else encNegInt i.natAbs)
      else encTypedBig (if 0 ≤ i then tPosInt else tNegInt) i.natAbs := by
  unfold encBigInt
  by_cases hneg : i < 0
  · have hn : (-i).toNat = i.natAbs := by
      rw [← Int.toNat_add_toNat_neg_eq_natAbs i, Int.toNat_of_nonpos (Int.le_of_lt hneg), Nat.zero_add]
    rw [if_pos hneg, if_neg (Int.not_le.2 hneg), if_neg (Int.not_le.2 hneg), hn]
    by_cases h64 : i.natAbs < 2 ^ 64
    · rw [if_pos h64, if_pos h64]
      split <;> rfl
    · have h63 : ¬ -(2 : Int) ^ 63 ≤ i := fun h => h64 (by omega)
      rw [if_neg h64, if_neg h64, if_neg h63]
  · have hn : i.toNat = i.natAbs := by
      rw [← Int.toNat_add_toNat_neg_eq_natAbs i, Int.toNat_of_nonpos (Int.neg_nonpos_of_nonneg (Int.not_lt.1 hneg)),
        Nat.add_zero]
    rw [if_neg hneg, if_pos (Int.not_lt.1 hneg), if_pos (Int.not_lt.1 hneg), hn]
    by_cases h64 : i.natAbs < 2 ^ 64
    · rw [if_pos h64, if_pos h64]
    · rw [if_neg h64, if_neg h64]

theorem reads_encNaN (s : Bool) : Reads (encNaN s) [.dfloat (if s then .snan else .nan)] := by
  intro rest; cases s <;> rfl

theorem reads_encInf (neg : Bool) : Reads (encInf neg) [.dfloat (if neg then .negInf else .inf)] := by
  intro rest; cases neg <;> rfl

theorem reads_encZero (neg : Bool) : Reads (encZero neg) [if neg then .negInt 0 else .int 0] := by
  intro rest; cases neg <;> rfl

open CE.F in
theorem reads_encFloat (b : Nat) (hok : floatOK b = true) : Reads (encFloat b) (renormFloat b) := by
  simp only [floatOK, Bool.and_eq_true, decide_eq_true_eq, Bool.not_eq_true'] at hok
  obtain ⟨hb, hsub⟩ := hok
  -- `renormFloat` asks what `encFloat` asks, test by test
  refine rel_ite Reads (fun _ => reads_encInf _) fun _ => ?_
  refine rel_ite Reads (fun _ => by cases quiet64 b <;> exact reads_encNaN _) fun hnan => ?_
  refine rel_ite Reads (fun _ => by cases (sign64 b == 1) <;> exact reads_encZero _) fun _ => ?_
  have hcanon : canonNaN b = b := by unfold canonNaN; simp [hnan]
  cases hx : exactF32? b with
  | none =>
    simp only []
    have := reads_field (tok := .f64) (g := fun d => Ev.float (canonNaN (leNat d))) (t := u8 tFloat64) (by decide)
      (fun _ => rfl) (takeN_leBytes 8 b)
    rwa [leNat_leBytes_lt 8 b (by simpa using hb), hcanon] at this
  | some s =>
    simp only []
    obtain ⟨he1, he2, hs32⟩ := exactF32?_normal b s hx (fun h => by simp [h.1, h.2, hx] at hsub)
    have hw := widen_exact_normal b s hb he1 he2 hx
    split
    · rename_i h16
      have := reads_field (tok := .f16) (g := fun d => floatFrom32 (leNat d * 65536)) (t := u8 tFloat16) (by decide)
        (fun _ => rfl) (takeN_leBytes 2 (s / 65536))
      rwa [leNat_leBytes_lt 2 _ (Nat.div_lt_of_lt_mul hs32), Nat.div_mul_cancel (Nat.dvd_of_mod_eq_zero h16),
        floatFrom32, hw, hcanon] at this
    · have := reads_field (tok := .f32) (g := fun d => floatFrom32 (leNat d)) (t := u8 tFloat32) (by decide)
        (fun _ => rfl) (takeN_leBytes 4 s)
      rwa [leNat_leBytes_lt 4 s (by simpa using hs32), floatFrom32, hw, hcanon] at this

theorem ulebLen_one (f : Nat) (h : ulebLen f = 1) : f < 128 := (ulebLen_le_iff f 0).1 (Nat.le_of_eq h)

/-- `f ≠ 2`, `f ≠ 3`: the one-byte codes of the two zeros -/
theorem decodeDecimal_uleb (f c : Nat) (hf : f < 2 ^ 33) (h4 : f ≠ 2 ∧ f ≠ 3) (rest : Bytes) :
    decodeDecimal (uleb f ++ uleb c ++ rest) =
      .ok (let e : Int := if f / 2 % 2 == 1 then -((f / 4 : Nat) : Int) else (f / 4 : Nat)
           if c < 2 ^ 63 then .dfloat (DF.mk e (if f % 2 == 1 then -(c : Int) else c))
           else .bigDecimal (some (.val (f % 2 == 1) c e)), rest) := by
  -- a field of two bytes is at least 128, so the two-byte codes 0 .. 3 are out of the question
  have hk2 : ulebLen f = 2 → 128 ≤ f := fun h => Nat.le_of_not_lt fun hf =>
    absurd ((ulebLen_le_iff f 0).2 hf) (by rw [h]; decide)
  have hlt : f / 4 < 2 ^ 31 := Nat.div_lt_of_lt_mul hf
  unfold decodeDecimal
  rw [List.append_assoc, unuleb_uleb f (Nat.lt_trans hf (by decide))]
  have e1 : ¬ (ulebLen f = 1 ∧ f = 2) := fun h => h4.1 h.2
  have e2 : ¬ (ulebLen f = 1 ∧ f = 3) := fun h => h4.2 h.2
  have e3 : ∀ v, v < 4 → ¬ (ulebLen f = 2 ∧ f = v) := fun v hv h =>
    Nat.not_le_of_lt (Nat.lt_trans hv (by decide)) (h.2 ▸ hk2 h.1)
  have hbig : ¬ f > 0x1ffffffff := Nat.not_lt.2 (Nat.le_of_lt_succ hf)
  simp only [e1, e2, e3 0 (by decide), e3 1 (by decide), e3 2 (by decide), e3 3 (by decide), hbig, hlt, if_false,
    if_true, unulebRaw_uleb c rest]
  by_cases hc : c < 2 ^ 63
  · have hk : ulebLen c ≤ 18 := Nat.le_trans (ulebLen_u64 c (Nat.lt_trans hc (by decide))) (by decide)
    simp only [hk, hc, and_self, if_true]
  · simp only [hc, and_false, if_false]

/-- the three parts of a decimal's field, each by division with remainder: the exponent's magnitude above its sign
    bit above the coefficient's sign bit -/
theorem field_parts (a : Nat) (p q : Prop) [Decidable p] [Decidable q] {f : Nat}
    (hf : a * 4 + (if p then 2 else 0) + (if q then 1 else 0) = f) :
    f / 4 = a ∧ (f / 2 % 2 == 1) = decide p ∧ (f % 2 == 1) = decide q := by
  obtain ⟨t, ht, h2, hp⟩ : ∃ t, t < 2 ∧ (if p then 2 else 0) = t * 2 ∧ (t == 1) = decide p := by
    by_cases h : p
    · exact ⟨1, by decide, if_pos h, (decide_eq_true h).symm⟩
    · exact ⟨0, by decide, if_neg h, (decide_eq_false h).symm⟩
  obtain ⟨s, hs, h1, hq⟩ : ∃ s, s < 2 ∧ (if q then 1 else 0) = s ∧ (s == 1) = decide q := by
    by_cases h : q
    · exact ⟨1, by decide, if_pos h, (decide_eq_true h).symm⟩
    · exact ⟨0, by decide, if_neg h, (decide_eq_false h).symm⟩
  -- `f = s + (a * 2 + t) * 2`
  rw [h2, h1, show a * 4 = a * 2 * 2 from (Nat.mul_assoc a 2 2).symm, ← Nat.add_mul, Nat.add_comm] at hf
  have hd : f / 2 = a * 2 + t := by
    rw [← hf, Nat.add_mul_div_right _ _ (by decide), Nat.div_eq_of_lt hs, Nat.zero_add]
  refine ⟨?_, ?_, ?_⟩
  · rw [← Nat.div_div_eq_div_mul f 2 2, hd, Nat.add_comm, Nat.add_mul_div_right _ _ (by decide), Nat.div_eq_of_lt ht,
      Nat.zero_add]
  · rw [hd, Nat.add_comm, Nat.add_mul_mod_self_right, Nat.mod_eq_of_lt ht, hp]
  · rw [← hf, Nat.add_mul_mod_self_right, Nat.mod_eq_of_lt hs, hq]

theorem ite_neg_natAbs (i : Int) : (if i < 0 then -((i.natAbs : Nat) : Int) else (i.natAbs : Nat)) = i := by
  by_cases h : i < 0
  · rw [if_pos h, Int.ofNat_natAbs_of_nonpos (Int.le_of_lt h), Int.neg_neg]
  · rw [if_neg h, Int.natAbs_of_nonneg (Int.not_lt.1 h)]

theorem decodeDecimal_field (e : Int) (neg : Bool) (c : Nat) (he : e.natAbs < 2 ^ 31) (hc0 : c ≠ 0) (rest : Bytes) :
    decodeDecimal (uleb ((e.natAbs * 4 + (if e < 0 then 2 else 0) + (if neg then 1 else 0)) % 2 ^ 64) ++ uleb c ++ rest) =
      .ok (if c < 2 ^ 63 then .dfloat (.val e (if neg then -(c : Int) else c))
           else .bigDecimal (some (.val neg c e)), rest) := by
  generalize hfield : e.natAbs * 4 + (if e < 0 then 2 else 0) + (if neg then 1 else 0) = f
  obtain ⟨h4, h2, h1⟩ := field_parts e.natAbs (e < 0) (neg = true) hfield
  rw [← h4] at he
  have hf : f < 2 ^ 33 := Nat.lt_of_lt_of_le (Nat.lt_mul_of_div_lt he (by decide)) (by decide)
  -- the codes 2 and 3 of the two zeros have the exponent's sign bit set and magnitude 0
  have hz : e < 0 → f / 4 ≠ 0 := fun h h0 => Int.natAbs_ne_zero.2 (Int.ne_of_lt h) (h4.symm.trans h0)
  have hne : f ≠ 2 ∧ f ≠ 3 := by
    constructor <;> rintro rfl <;> exact hz (of_decide_eq_true h2.symm) rfl
  rw [Nat.mod_eq_of_lt (Nat.lt_trans hf (by decide)), decodeDecimal_uleb f c hf hne]
  simp only [h4, h2, h1, decide_eq_true_eq, Bool.decide_eq_true, ite_neg_natAbs]
  have : (if neg = true then -(c : Int) else (c : Int)) ≠ 0 := by cases neg <;> simp <;> omega
  simp [DF.mk, this]

theorem decodeDecimal_val (e c : Int) (he : e.natAbs < 2 ^ 31) (hc : c.natAbs < 2 ^ 63) (hc0 : c ≠ 0) (rest : Bytes) :
    decodeDecimal (encDFloatVal e c ++ rest) = .ok (.dfloat (.val e c), rest) := by
  unfold encDFloatVal
  simp only []
  have hmodc : c.natAbs % 2 ^ 64 = c.natAbs := Nat.mod_eq_of_lt (Nat.lt_trans hc (by decide))
  have := decodeDecimal_field e (decide (c < 0)) c.natAbs he (Int.natAbs_ne_zero.2 hc0) rest
  simp only [decide_eq_true_eq, hc, if_true] at this
  rw [hmodc, this, ite_neg_natAbs]

theorem reads_encDFloat (d : DF) (hok : dfOK d = true) : Reads (encDFloat d) (renormDF d) := by
  cases d with
  | val e c =>
    simp only [dfOK, Bool.and_eq_true, decide_eq_true_eq] at hok
    refine rel_ite Reads (fun _ => reads_encZero false) fun hc0 => ?_
    exact reads_field (tok := .decimal) (g := id) (by decide) (fun _ => rfl) (decodeDecimal_val e c hok.1 hok.2 hc0)
  | zero => exact reads_encZero false
  | negZero => exact reads_encZero true
  | inf => exact reads_encInf false
  | negInf => exact reads_encInf true
  | nan => exact reads_encNaN false
  | snan => exact reads_encNaN true

theorem reads_encBigDec (d : BigDec) (hok : bdOK d = true) : Reads (encBigDec d) (renormBD d) := by
  cases d with
  | inf neg => exact reads_encInf neg
  | nan => exact reads_encNaN false
  | snan => exact reads_encNaN true
  | val neg c e =>
    simp only [bdOK, decide_eq_true_eq] at hok
    refine rel_ite Reads (fun _ => by cases neg <;> exact reads_encZero _) fun hc0 => ?_
    have := reads_field (tok := .decimal) (g := id) (t := u8 tDecimal) (by decide) (fun _ => rfl)
      (decodeDecimal_field e neg c hok hc0)
    by_cases hc : c < 2 ^ 63 <;> simpa [hc] using this

theorem reads_encInt (i : Int) (h : -(2 : Int) ^ 63 ≤ i ∧ i < 2 ^ 63) : Reads (encInt i) (renorm (.int i)) := by
  refine rel_ite Reads (fun _ => reads_encPosInt _ (by omega)) fun _ => ?_
  have hlt : (-i).toNat < 2 ^ 64 := by omega
  rw [Nat.mod_eq_of_lt hlt]
  exact reads_encNegInt _ hlt

theorem reads_encBigInt (i : Int) (h : i.natAbs < 2 ^ 8192) :
    Reads (encBigInt i).1 (renorm (.bigInt (some i))) := by
  rw [encBigInt_bytes]
  refine rel_ite Reads (fun h64 => rel_ite Reads (fun _ => reads_encPosInt _ h64) fun _ => reads_encNegInt _ h64)
    fun h64 => ?_
  -- 65 .. 8192 bits: 9 .. 1024 bytes
  have h8 : ¬ byteLen i.natAbs ≤ 8 := by have := byteLen_ge i.natAbs 8 (by simpa using Nat.le_of_not_lt h64); omega
  have hL : byteLen i.natAbs ≤ maxBigIntBytes := byteLen_le _ 1024 (by
    have : (256 : Nat) ^ 1024 = 2 ^ 8192 := by rw [show (256 : Nat) = 2 ^ 8 by rfl, ← Nat.pow_mul]
    omega)
  have hd := fun neg rest => decodeVarInt_typed neg i.natAbs hL rest
  simp only [h8, if_false, ← List.append_assoc] at hd
  simp only [encTypedBig]
  by_cases h0 : 0 ≤ i
  · have hv : ((i.natAbs : Nat) : Int) = i := by omega
    simp only [h0, if_true]
    simpa [hv] using reads_field (tok := .posVar) (g := id) (t := u8 tPosInt) (by decide) (fun _ => rfl) (hd false)
  · have hv : -((i.natAbs : Nat) : Int) = i := by omega
    simp only [h0, if_false]
    simpa [hv] using reads_field (tok := .negVar) (g := id) (t := u8 tNegInt) (by decide) (fun _ => rfl) (hd true)

theorem reads_encId {c : Nat} {tok : Tok} (hc : classify (u8 c).toNat = tok) {g : Bytes → Ev}
    (htok : ∀ r, decodeTok tok r = lift (do let (a, r') ← readId r; pure ([g a], r')))
    (id : Bytes) (h : 0 < id.length ∧ id.length ≤ maxIdentifierLength) : Reads (u8 c :: encId id) [g id] :=
  reads_field hc htok (readId_encId id · h.1 h.2)

theorem reads_plane_id (p : Nat) (g : Bytes → Ev) (id : Bytes) (h : 0 < id.length ∧ id.length ≤ maxIdentifierLength)
    (hp : ∀ r, decodePlane7f (u8 p :: r) = lift (do let (a, r') ← readId r; pure ([g a], r'))) :
    Reads (u8 tPlane7f :: u8 p :: encId id) [g id] :=
  reads_tok (tok := .plane7f) (b := u8 p :: encId id) (by decide) fun rest => by
    show decodePlane7f (u8 p :: (encId id ++ rest)) = _
    rw [hp, readId_encId id rest h.1 h.2]; rfl

theorem reads_simple (st : EncSt) (e : Ev) (h : simple e = true) (bs : Bytes)
    (henc : encodeEv st e = .ok (st, bs)) (hc : ∀ m s, e ≠ .comment m s) : Reads bs (renorm e) := by
  -- `bs` is what `encodeEv` computes for `e`: in each case below, `B` is found by `rfl`
  have bytes : ∀ B, encodeEv st e = .ok (st, B) → Reads B (renorm e) → Reads bs (renorm e) := fun B hB r => by
    rw [hB] at henc
    cases henc
    exact r
  cases e
  case array t c d => exact (whole_array h).2 st bs henc
  case stringlike t s => exact (whole_stringlike h).2 st bs henc
  case comment m s => exact (hc m s rfl).elim
  case bool b => cases b <;> exact bytes _ rfl (reads_tok rfl fun _ => rfl)
  case float b => exact bytes _ rfl (reads_encFloat b h)
  case dfloat d => exact bytes _ rfl (reads_encDFloat d h)
  case bigDecimal o =>
    cases o with
    | none => exact bytes _ rfl (reads_tok rfl fun _ => rfl)
    | some d => exact bytes _ rfl (reads_encBigDec d h)
  case posInt n => exact bytes _ rfl (reads_encPosInt n (of_decide_eq_true h))
  case negInt n => exact bytes _ rfl (reads_encNegInt n (of_decide_eq_true h))
  case int i => exact bytes _ rfl (reads_encInt i (of_decide_eq_true h))
  case bigInt o =>
    cases o with
    | none => exact bytes _ rfl (reads_tok rfl fun _ => rfl)
    | some i => exact bytes _ rfl (reads_encBigInt i (of_decide_eq_true (p := i.natAbs < 2 ^ 8192) h))
  case uid b =>
    have hb : b.length = 16 := of_decide_eq_true h
    exact bytes _ rfl
      (reads_field (tok := .uid) (g := Ev.uid) (by decide) (fun _ => rfl) (fun rest => hb ▸ takeN_append b rest))
  case record id =>
    exact bytes _ rfl (reads_encId (tok := .record) (by decide) (fun _ => rfl) id (of_decide_eq_true h))
  case refLocal id =>
    exact bytes _ rfl (reads_encId (tok := .localRef) (by decide) (fun _ => rfl) id (of_decide_eq_true h))
  case marker id =>
    exact bytes _ rfl (reads_plane_id pMarker Ev.marker id (of_decide_eq_true h) (fun _ => rfl))
  case recordType id =>
    exact bytes _ rfl (reads_plane_id pRecordType Ev.recordType id (of_decide_eq_true h) (fun _ => rfl))
  -- what remains of the fragment is written as its type byte alone
  case null | true_ | false_ | padding | list | map | edge | node | endContainer =>
    exact bytes _ rfl (reads_tok rfl fun _ => rfl)
  all_goals exact Bool.noConfusion h

theorem decodeOne_simple (st : EncSt) (e : Ev) (h : simple e = true) (bs rest : Bytes)
    (henc : encodeEv st e = .ok (st, bs)) (hc : ∀ m s, e ≠ .comment m s) :
    bs ≠ [] ∧ decodeOne (bs ++ rest) = .ok (renorm e, rest) :=
  (reads_simple st e h bs henc hc).spec rest


theorem flat_renormPos (n : Nat) : flat (renormPos n) = true := by
  unfold renormPos; split <;> rfl

theorem flat_renormNeg (n : Nat) : flat (renormNeg n) = true := by
  unfold renormNeg; repeat' split
  all_goals rfl

theorem canon_renormPos (n : Nat) : canon false [renormPos n] = canon false [.posInt n] := by
  unfold renormPos; split <;> simp [canon]

theorem canon_renormNeg (n : Nat) : canon false [renormNeg n] = canon false [.negInt n] := by
  unfold renormNeg
  by_cases h0 : n = 0
  · simp [h0, canon]
  · by_cases h1 : n ≤ smallIntMax <;> simp [h0, h1, canon]

theorem encodeEv_renormPos (n : Nat) (st : EncSt) :
    encodeEv st (renormPos n) = .ok (st, encPosInt n) := by
  unfold renormPos
  by_cases h1 : n ≤ smallIntMax
  · rw [if_pos h1]
    show Except.ok (st, encInt (n : Int)) = _
    rw [encInt, if_pos (Int.natCast_nonneg n), Int.toNat_natCast]
  · rw [if_neg h1]
    rfl

theorem encodeEv_renormNeg (n : Nat) (st : EncSt) :
    encodeEv st (renormNeg n) = .ok (st, encNegInt n) := by
  unfold renormNeg
  by_cases h0 : n = 0
  · rw [if_pos h0, h0]
    rfl
  rw [if_neg h0]
  by_cases h1 : n ≤ smallIntMax
  · -- `encInt` takes the magnitude of `-n` back, modulo 2^64
    have hneg : ¬ 0 ≤ -(n : Int) := Int.not_le.2 (Int.neg_neg_of_pos (Int.natCast_pos.2 (Nat.pos_of_ne_zero h0)))
    rw [if_pos h1]
    show Except.ok (st, encInt (-(n : Int))) = _
    rw [encInt, if_neg hneg, Int.neg_neg, Int.toNat_natCast, Nat.mod_eq_of_lt (Nat.lt_of_le_of_lt h1 (by decide))]
  · rw [if_neg h1]
    rfl

theorem stands_renormPos (n : Nat) : Stands [renormPos n] (.posInt n) :=
  .one (flat_renormPos n) rfl (fun _ => rfl) (encodeEv_renormPos n) (canon_renormPos n)

theorem stands_renormNeg (n : Nat) : Stands [renormNeg n] (.negInt n) :=
  .one (flat_renormNeg n) rfl (fun _ => rfl) (encodeEv_renormNeg n) (canon_renormNeg n)

theorem stands_int (i : Int) (h : -(2 : Int) ^ 63 ≤ i ∧ i < 2 ^ 63) : Stands (renorm (.int i)) (.int i) := by
  simp only [renorm]
  by_cases hi : 0 ≤ i
  · rw [if_pos hi]
    exact .one (flat_renormPos _) rfl (fun st => by simp only [encodeEv, encInt, hi, if_true]) (encodeEv_renormPos _)
      ((canon_renormPos _).trans (by simp [canon, Int.toNat_of_nonneg hi]))
  · rw [if_neg hi]
    have hlt : (-i).toNat < 2 ^ 64 := by omega
    have hneg : 0 ≤ -i := Int.neg_nonneg_of_nonpos (Int.le_of_lt (Int.not_le.1 hi))
    have hne : ¬ (-i).toNat = 0 := fun h0 => hi (Int.nonneg_of_neg_nonpos (Int.toNat_eq_zero.1 h0))
    have hv : -(((-i).toNat : Nat) : Int) = i := by rw [Int.toNat_of_nonneg hneg, Int.neg_neg]
    exact .one (flat_renormNeg _) rfl (fun st => by simp only [encodeEv, encInt, hi, if_false, Nat.mod_eq_of_lt hlt])
      (encodeEv_renormNeg _) ((canon_renormNeg _).trans (by simp only [canon, hne, if_false, hv]))

/-- for a big integer of any size, as for every value below but `int`: the bounds of the fragment are the decoder's -/
theorem stands_bigInt (i : Int) : Stands (renorm (.bigInt (some i))) (.bigInt (some i)) := by
  have hB : ∀ st, encodeEv st (.bigInt (some i)) = .ok (st, (encBigInt i).1) := fun _ => rfl
  rw [encBigInt_bytes] at hB
  simp only [renorm]
  by_cases h64 : i.natAbs < 2 ^ 64
  · by_cases h0 : 0 ≤ i
    · have hv : ((i.natAbs : Nat) : Int) = i := Int.natAbs_of_nonneg h0
      simp only [h64, h0, if_true] at hB ⊢
      exact .one (flat_renormPos _) rfl hB (encodeEv_renormPos _) ((canon_renormPos _).trans (by simp only [canon, hv]))
    · have hv : -((i.natAbs : Nat) : Int) = i := by
        rw [Int.ofNat_natAbs_of_nonpos (Int.le_of_lt (Int.not_le.1 h0)), Int.neg_neg]
      have hne : ¬ i.natAbs = 0 := Int.natAbs_ne_zero.2 fun h => h0 (Int.le_of_eq h.symm)
      simp only [h64, h0, if_true, if_false] at hB ⊢
      exact .one (flat_renormNeg _) rfl hB (encodeEv_renormNeg _)
        ((canon_renormNeg _).trans (by simp only [canon, hne, if_false, hv]))
  · simp only [h64, if_false]
    exact .self rfl fun _ => rfl

open CE.F in
theorem stands_float (b : Nat) : Stands (renormFloat b) (.float b) := by
  have hB : ∀ st, encodeEv st (.float b) = .ok (st, encFloat b) := fun _ => rfl
  unfold renormFloat
  unfold encFloat at hB
  by_cases hinf : isInf64 b = true
  · rw [if_pos hinf] at hB ⊢
    exact .one rfl rfl hB (fun st => by cases (sign64 b == 1) <;> rfl)
      (by simp only [canon, canonFloat, hinf, isNaN64_of_isInf64 hinf]; cases (sign64 b == 1) <;> rfl)
  rw [if_neg hinf] at hB ⊢
  by_cases hnan : isNaN64 b = true
  · rw [if_pos hnan] at hB ⊢
    exact .one rfl rfl hB (fun st => by cases quiet64 b <;> rfl)
      (by simp only [canon, canonFloat, hnan]; cases quiet64 b <;> rfl)
  rw [if_neg hnan] at hB ⊢
  by_cases hz : isZero64 b = true
  · rw [if_pos hz] at hB ⊢
    cases hs : (sign64 b == 1) <;> rw [hs] at hB <;>
      exact .one rfl rfl hB (fun _ => rfl) (by simp [canon, canonFloat, hinf, hnan, hz, hs])
  rw [if_neg hz]
  exact .self rfl fun _ => rfl

theorem stands_dfloat (d : DF) : Stands (renormDF d) (.dfloat d) := by
  cases d with
  | val e c =>
    by_cases hc0 : c = 0
    · subst hc0; exact .one rfl rfl (fun _ => rfl) (fun _ => rfl) (by simp [canon, canonDF, canonDec])
    · simp only [renormDF, hc0, if_false]; exact .self rfl fun _ => rfl
  | zero => exact .one rfl rfl (fun _ => rfl) (fun _ => rfl) (by simp [canon, canonDF])
  | negZero => exact .one rfl rfl (fun _ => rfl) (fun _ => rfl) (by simp [canon, canonDF])
  | _ => exact .self rfl fun _ => rfl

theorem stands_bigDec (d : BigDec) : Stands (renormBD d) (.bigDecimal (some d)) := by
  cases d with
  | val neg c e =>
    simp only [renormBD]
    by_cases hc0 : c = 0
    · subst hc0; cases neg <;> exact .one rfl rfl (fun _ => rfl) (fun _ => rfl) (by simp [canon, canonBigDec])
    by_cases hc : c < 2 ^ 63
    · -- a coefficient below 2^63 comes back as a decimal float with the same field and coefficient
      have hne : (if neg = true then -(c : Int) else (c : Int)) ≠ 0 := by cases neg <;> simp <;> omega
      have habs : (if neg = true then -(c : Int) else (c : Int)).natAbs = c := by cases neg <;> simp
      have hlt : ((if neg = true then -(c : Int) else (c : Int)) < 0) ↔ neg = true := by
        cases neg <;> simp <;> omega
      have hmod : c % 2 ^ 64 = c := Nat.mod_eq_of_lt (by omega)
      simp only [hc0, hc, if_true, if_false]
      exact .one rfl rfl (fun _ => rfl)
        (fun st => by simp only [encodeEv, encDFloat, encBigDec, hne, hc0, encDFloatVal, habs, hlt, hmod, if_false])
        (by simp only [canon, canonDF, canonBigDec, hc0, if_false])
    · simp only [hc0, hc, if_false]; exact .self rfl fun _ => rfl
  | inf neg => cases neg <;> exact .one rfl rfl (fun _ => rfl) (fun _ => rfl) (by simp [canon, canonDF, canonBigDec])
  | nan => exact .one rfl rfl (fun _ => rfl) (fun _ => rfl) (by simp [canon, canonDF, canonBigDec])
  | snan => exact .one rfl rfl (fun _ => rfl) (fun _ => rfl) (by simp [canon, canonDF, canonBigDec])

/-- the ONE case analysis for what the encoder and `canon` make of `renorm e`; the decoder's side is `reads_simple` -/
theorem renorm_stands (e : Ev) (h : simple e = true) : Stands (renorm e) e := by
  cases e
  case comment m s =>
    exact ⟨⟨[], fun _ => rfl, .nil⟩, fun xs ys hx _ hxy => ⟨by simp [renorm, canon, hxy], hx, rfl⟩⟩
  case bool b => cases b <;> exact .one rfl rfl (fun _ => rfl) (fun _ => rfl) (by simp [canon])
  case posInt n => exact stands_renormPos n
  case negInt n => exact stands_renormNeg n
  case int i => exact stands_int i (of_decide_eq_true h)
  case bigInt o =>
    cases o with
    | none => exact .one rfl rfl (fun _ => rfl) (fun _ => rfl) (by simp [canon])
    | some i => exact stands_bigInt i
  case float b => exact stands_float b
  case dfloat d => exact stands_dfloat d
  case bigDecimal o =>
    cases o with
    | none => exact .one rfl rfl (fun _ => rfl) (fun _ => rfl) (by simp [canon])
    | some d => exact stands_bigDec d
  case array t c d => exact (whole_array h).1
  case stringlike t s => exact (whole_stringlike h).1
  -- what remains of the fragment comes back as the event it is
  case null | true_ | false_ | padding | list | map | edge | node | endContainer | uid | marker | refLocal | record
      | recordType =>
    exact .self rfl fun _ => rfl
  all_goals exact Bool.noConfusion h

theorem encodeEv_simple_bytes (e : Ev) (h : simple e = true) : ∃ bs, ∀ st, encodeEv st e = .ok (st, bs) :=
  let ⟨⟨B, hB, _⟩, _⟩ := renorm_stands e h; ⟨B, hB⟩

theorem canon_renorm (e : Ev) (h : simple e = true) (xs ys : List Ev) (hcl : clean xs = true)
    (hxy : canon false xs = canon false ys) : canon false (renorm e ++ xs) = canon false (e :: ys) := by
  have hf : flat e = true := by
    fun_cases flat e with
    | case1 | case2 | case3 | case4 | case5 => exact Bool.noConfusion h
    | case6 => rfl
  rw [((renorm_stands e h).2 xs xs hcl hcl rfl).1, List.singleton_append, canon_flat hf xs, canon_flat hf ys, hxy]

end CE.Cbe

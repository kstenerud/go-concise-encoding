import CE.Cache.Model
/-
  Invariants of the cache protocol for every schedule and any number of goroutines.  The placeholder
  is a lock: `At` attaches to each program point of a goroutine an assertion about the shared state
  only, never about another goroutine's program counter (an Owicki-Gries annotation), and
  `At.stable` is interference freedom.
-/
namespace CE.Cache

theorem upd_eq_iff (f : Nat → Pc) (t u : Nat) (p q : Pc) :
    upd f t p u = q ↔ (u = t ∧ p = q) ∨ (u ≠ t ∧ f u = q) := by
  unfold upd; by_cases h : u = t <;> simp [h]

theorem upd_apply (f : Nat → Pc) (t u : Nat) (p : Pc) :
    upd f t p u = if u = t then p else f u := rfl

/-- progress measure of one goroutine -/
def rank : Pc → Nat
  | .init => 0 | .tryStore => 1 | .generating => 2 | .doneGen => 3 | .storing => 4
  | .holding _ => 5 | .waiting _ => 6 | .finished _ => 7

/-- the measure has eight values, so no schedule spins -/
theorem step_progress (P : Params) (s s' : Sys) (t : Nat) (hs : step P s t = some s') :
    rank (s.pcs t) < rank (s'.pcs t) ∧ ∀ u, u ≠ t → s'.pcs u = s.pcs u := by
  -- a step moves the program counter of `t` only, and moves it up
  have key : ∃ p, rank (s.pcs t) < rank p ∧ s'.pcs = upd s.pcs t p := by
    revert hs
    fun_cases step P s t
    all_goals intro hs
    all_goals cases hs
    all_goals refine ⟨_, ?_, rfl⟩
    all_goals simp only [*, rank]
    all_goals decide
  obtain ⟨p, hlt, hp⟩ := key
  rw [hp, upd_same]
  exact ⟨hlt, fun u hu => upd_other _ _ _ _ hu⟩

def At (P : Params) (sl : Slot) (rel : List Nat) (u : Nat) : Pc → Prop
  | .init | .tryStore => sl ≠ .placeholder u
  | .generating => sl = .placeholder u
  | .doneGen => sl = .placeholder u ∧ P.genOk = true
  | .storing => sl = .placeholder u ∧ P.genOk = true ∧ u ∈ rel
  | .holding none => sl ≠ .placeholder u ∧ P.genOk = true
  | .holding (some o) | .waiting o => sl ≠ .placeholder u ∧ (o ∈ rel ∨ sl = .placeholder o)
  | .finished r => sl ≠ .placeholder u ∧ r = expected P

/-- the two list clauses are what the step out of `waiting` needs: a released owner is a failed one
    exactly when generation fails -/
structure Inv (P : Params) (s : Sys) : Prop where
  finalOk : s.slot = .final → P.genOk = true
  failedNotOk : ∀ o ∈ s.failedOwners, P.genOk = false
  releasedFailed : ∀ o ∈ s.released, P.genOk = false → o ∈ s.failedOwners
  at_ : ∀ u, At P s.slot s.released u (s.pcs u)

/-- `hsl`: `t` changes the slot only by taking the lock when it is free, or by giving up its own
    after `wg.Done()` -/
theorem At.stable {P : Params} {sl sl' : Slot} {rel rel' : List Nat} {t u : Nat} (hut : u ≠ t)
    (hr : ∀ o ∈ rel, o ∈ rel')
    (hsl : sl' = sl ∨ (sl = .empty ∧ sl' = .placeholder t) ∨
      (sl = .placeholder t ∧ t ∈ rel' ∧ ∀ o, sl' ≠ .placeholder o)) :
    ∀ {p : Pc}, At P sl rel u p → At P sl' rel' u p := by
  have hne : Slot.placeholder t ≠ .placeholder u := fun e => hut (Slot.placeholder.inj e).symm
  have hlock : sl ≠ .placeholder u → sl' ≠ .placeholder u := by
    rcases hsl with e | ⟨-, e⟩ | ⟨-, -, e⟩
    · exact e ▸ id
    · exact fun _ => e ▸ hne
    · exact fun _ => e u
  have hown : sl = .placeholder u → sl' = .placeholder u := by
    rcases hsl with e | ⟨e, -⟩ | ⟨e, -⟩
    · exact e ▸ id
    · exact fun x => nomatch e.symm.trans x
    · exact fun x => absurd (e.symm.trans x) hne
  have hwait : ∀ o, o ∈ rel ∨ sl = .placeholder o → o ∈ rel' ∨ sl' = .placeholder o := by
    rintro o (h | h)
    · exact .inl (hr o h)
    · rcases hsl with e | ⟨e, -⟩ | ⟨e, ht, -⟩
      · exact .inr (e ▸ h)
      · exact nomatch e.symm.trans h
      · exact .inl (Slot.placeholder.inj (e.symm.trans h) ▸ ht)
  intro p h
  match p, h with
  | .init, h | .tryStore, h => exact hlock h
  | .generating, h => exact hown h
  | .doneGen, h => exact ⟨hown h.1, h.2⟩
  | .storing, h => exact ⟨hown h.1, h.2.1, hr u h.2.2⟩
  | .holding none, h => exact ⟨hlock h.1, h.2⟩
  | .holding (some o), h | .waiting o, h => exact ⟨hlock h.1, hwait o h.2⟩
  | .finished r, h => exact ⟨hlock h.1, h.2⟩

theorem At.of_lock {P : Params} {sl : Slot} {rel : List Nat} {u : Nat} (hsl : sl = .placeholder u) :
    ∀ {p : Pc}, At P sl rel u p → p = .generating ∨ p = .doneGen ∨ p = .storing
  | .generating, _ => .inl rfl
  | .doneGen, _ => .inr (.inl rfl)
  | .storing, _ => .inr (.inr rfl)
  | .init, h | .tryStore, h => absurd hsl h
  | .holding none, h | .holding (some _), h | .waiting _, h | .finished _, h => absurd hsl h.1

theorem at_upd {P : Params} {sl : Slot} {rel : List Nat} {f : Nat → Pc} {t : Nat} {p : Pc}
    (hp : At P sl rel t p) (h : ∀ u, u ≠ t → At P sl rel u (f u)) (u : Nat) :
    At P sl rel u (upd f t p u) := by
  by_cases e : u = t
  · rw [e, upd_same]; exact hp
  · rw [upd_other _ _ _ _ e]; exact h u e

theorem expected_eq {P : Params} {b : Bool} (h : P.genOk = b) :
    expected P = if b then .ok else .failed := by rw [expected, h]

theorem step_inv (P : Params) (hfix : P.fixed = true) (s s' : Sys) (t : Nat)
    (h : Inv P s) (hs : step P s t = some s') : Inv P s' := by
  obtain ⟨sl, rel, fo, pcs⟩ := s
  obtain ⟨h1, h2, h3, h4⟩ := h
  dsimp only at h1 h2 h3 h4
  have ht := h4 t
  have keep : ∀ u, u ≠ t → At P sl rel u (pcs u) := fun u _ => h4 u
  have grow : ∀ o ∈ rel, o ∈ t :: rel := fun _ => List.mem_cons_of_mem t
  unfold step at hs
  dsimp only at hs
  cases hp : pcs t with
  | init =>
    rw [hp] at ht; simp only [hp] at hs
    cases sl with dsimp only at hs <;> cases hs
    | empty => exact ⟨h1, h2, h3, at_upd ht keep⟩
    | placeholder o => exact ⟨h1, h2, h3, at_upd ⟨ht, .inr rfl⟩ keep⟩
    | final => exact ⟨h1, h2, h3, at_upd ⟨ht, h1 rfl⟩ keep⟩
  | tryStore =>
    rw [hp] at ht; simp only [hp] at hs
    cases sl with dsimp only at hs <;> cases hs
    | empty => exact ⟨nofun, h2, h3, at_upd rfl fun u hu =>
        (h4 u).stable hu (fun _ => id) (.inr (.inl ⟨rfl, rfl⟩))⟩
    | placeholder o => exact ⟨h1, h2, h3, at_upd ⟨ht, .inr rfl⟩ keep⟩
    | final => exact ⟨h1, h2, h3, at_upd ⟨ht, h1 rfl⟩ keep⟩
  | generating =>
    rw [hp] at ht; simp only [hp, hfix, if_true] at hs
    cases hg : P.genOk with simp only [hg, if_true, if_false, Bool.false_eq_true] at hs <;> cases hs
    | true => exact ⟨h1, h2, h3, at_upd ⟨ht, hg⟩ keep⟩
    | false =>
      -- the deferred recovery: Delete, real := panicking, wg.Done
      refine ⟨nofun, fun o ho => ?_, fun o ho _ => ?_, at_upd ⟨nofun, (expected_eq hg).symm⟩ fun u hu =>
        (h4 u).stable hu grow (.inr (.inr ⟨ht, List.mem_cons_self, fun _ => Slot.noConfusion⟩))⟩
      · exact (List.mem_cons.1 ho).elim (fun _ => hg) (h2 o)
      · exact (List.mem_cons.1 ho).elim (fun e => e ▸ List.mem_cons_self)
          fun h => List.mem_cons_of_mem _ (h3 o h hg)
  | doneGen =>
    rw [hp] at ht; simp only [hp] at hs; cases hs
    exact ⟨h1, h2, fun o _ hg => Bool.noConfusion (ht.2.symm.trans hg),
      at_upd ⟨ht.1, ht.2, List.mem_cons_self⟩ fun u hu => (h4 u).stable hu grow (.inl rfl)⟩
  | storing =>
    rw [hp] at ht; simp only [hp] at hs; cases hs
    exact ⟨fun _ => ht.2.1, h2, h3, at_upd (p := .holding none) ⟨nofun, ht.2.1⟩ fun u hu =>
      (h4 u).stable hu (fun _ => id) (.inr (.inr ⟨ht.1, ht.2.2, fun _ => Slot.noConfusion⟩))⟩
  | holding f =>
    rw [hp] at ht
    cases f with simp only [hp] at hs <;> cases hs
    | none => exact ⟨h1, h2, h3, at_upd ⟨ht.1, (expected_eq ht.2).symm⟩ keep⟩
    | some o => exact ⟨h1, h2, h3, at_upd ht keep⟩
  | waiting o =>
    rw [hp] at ht; simp only [hp] at hs
    split at hs <;> cases hs
    next hr =>
    refine ⟨h1, h2, h3, at_upd ⟨ht.1, ?_⟩ keep⟩
    cases hg : P.genOk with
    | true => rw [expected_eq hg, if_neg fun hf => Bool.noConfusion (hg.symm.trans (h2 o hf))]; rfl
    | false => rw [expected_eq hg, if_pos (h3 o hr hg)]; rfl
  | finished r => simp only [hp] at hs; cases hs

theorem Inv.init (P : Params) : Inv P {} := ⟨nofun, nofun, nofun, fun _ => nofun⟩

theorem run_inv (P : Params) (hfix : P.fixed = true) :
    ∀ (ts : List Nat) (s : Sys), Inv P s → Inv P (run P s ts)
  | [], _, h => h
  | t :: ts, s, h => by
    rw [run]
    cases hs : step P s t with
    | none => exact run_inv P hfix ts s h
    | some s' => exact run_inv P hfix ts s' (step_inv P hfix s s' t h hs)

end CE.Cache

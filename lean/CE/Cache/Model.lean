/-
  M-CACHE — the type caches of iterator.Session.GetIteratorForType and
  builder.Session.GetBuilderGeneratorForType (one cache entry, any number of goroutines).

  Go (both functions have this shape; `Gen/Session.lean` re-extracts it on every run):

      f, ok := cache.Load(t);            if ok { return f }                 -- pc init
      wg.Add(1)
      f, loaded := cache.LoadOrStore(t, placeholder{ wg.Wait(); real(..) }) -- pc tryStore
      if loaded { return f }
      defer func() { if r := recover(); r != nil {                          -- failure branch
          cache.Delete(t); real = panicking(r); wg.Done(); panic(r) } }()
      real = generate(t)                                                    -- pc generating
      wg.Done()                                                             -- pc doneGen
      cache.Store(t, real)                                                  -- pc storing
      return real

  A goroutine that obtained a function then *calls* it (pc holding / waiting): the placeholder
  blocks on the owner's WaitGroup and then calls `real`.
  `genOk` says whether generating code for this type succeeds (an unsupported kind panics —
  deterministically, every time).  `fixed = false` is the code before fix e509a33 (no deferred
  recovery): kept so that the theorems can be seen to fail for it.
-/
namespace CE.Cache

inductive Res | ok | failed
deriving DecidableEq, Repr, Inhabited

inductive Slot
  | empty
  | placeholder (owner : Nat)
  | final
deriving DecidableEq, Repr, Inhabited

inductive Pc
  | init | tryStore | generating | doneGen | storing
  | holding (f : Option Nat)        -- none = the real function, some o = o's placeholder
  | waiting (o : Nat)
  | finished (r : Res)
deriving DecidableEq, Repr, Inhabited

structure Sys where
  slot : Slot := .empty
  released : List Nat := []         -- owners whose WaitGroup is done
  failedOwners : List Nat := []     -- owners whose `real` is the panicking function
  pcs : Nat → Pc := fun _ => .init

def upd (f : Nat → Pc) (t : Nat) (p : Pc) : Nat → Pc := fun u => if u = t then p else f u

@[simp] theorem upd_same (f : Nat → Pc) (t : Nat) (p : Pc) : upd f t p t = p := by simp [upd]
@[simp] theorem upd_other (f : Nat → Pc) (t u : Nat) (p : Pc) (h : u ≠ t) : upd f t p u = f u := by
  simp [upd, h]

structure Params where
  genOk : Bool
  fixed : Bool := true

/-- one step of goroutine `t`; `none` = blocked (or finished) -/
def step (P : Params) (s : Sys) (t : Nat) : Option Sys :=
  match s.pcs t with
  | .init =>
    match s.slot with
    | .empty => some { s with pcs := upd s.pcs t .tryStore }
    | .placeholder o => some { s with pcs := upd s.pcs t (.holding (some o)) }
    | .final => some { s with pcs := upd s.pcs t (.holding none) }
  | .tryStore =>
    match s.slot with
    | .empty => some { s with slot := .placeholder t, pcs := upd s.pcs t .generating }
    | .placeholder o => some { s with pcs := upd s.pcs t (.holding (some o)) }
    | .final => some { s with pcs := upd s.pcs t (.holding none) }
  | .generating =>
    if P.genOk then some { s with pcs := upd s.pcs t .doneGen }
    else if P.fixed then
      some { s with slot := .empty, failedOwners := t :: s.failedOwners, released := t :: s.released,
                    pcs := upd s.pcs t (.finished .failed) }
    else some { s with pcs := upd s.pcs t (.finished .failed) }
  | .doneGen => some { s with released := t :: s.released, pcs := upd s.pcs t .storing }
  | .storing => some { s with slot := .final, pcs := upd s.pcs t (.holding none) }
  | .holding none => some { s with pcs := upd s.pcs t (.finished .ok) }
  | .holding (some o) => some { s with pcs := upd s.pcs t (.waiting o) }
  | .waiting o =>
    if o ∈ s.released then
      some { s with pcs := upd s.pcs t (.finished (if o ∈ s.failedOwners then .failed else .ok)) }
    else none
  | .finished _ => none

/-- a schedule is any list of goroutine ids; a blocked or finished goroutine's turn is a no-op -/
def run (P : Params) : Sys → List Nat → Sys
  | s, [] => s
  | s, t :: ts => run P ((step P s t).getD s) ts

/-- what every caller must observe: the outcome of generating code for the type -/
def expected (P : Params) : Res := if P.genOk then .ok else .failed

end CE.Cache

import CE.Cache.Multi
/-
  The many-entry cache stays sound through every request, successful or failed, however the types
  refer to each other (recursive types included).  One induction over the generation relation
  (`gen_spec`): a request, nested or not, fails only where an unsupported kind is reachable along a
  path that avoids the types in flight, and from a sound cache it fails exactly there and leaves a
  sound cache.  C16 `reused_session_answers_like_fresh` is stated with `noneInFlight`, `History` and
  `Answers`.
-/
namespace CE.Cache.Multi
variable (T : Types)

def noneInFlight : Nat → Prop := fun _ => False

/-- any history of requests on one session -/
inductive History : (Nat → Prop) → List Nat → (Nat → Prop) → List Bool → Prop
  | nil (F : Nat → Prop) : History F [] F []
  | cons (F F1 F2 : Nat → Prop) (t : Nat) (ts : List Nat) (ok : Bool) (oks : List Bool) :
      Gen T F noneInFlight t F1 ok → History F1 ts F2 oks → History F (t :: ts) F2 (ok :: oks)

/-- request by request: the outcome is the fresh one -/
inductive Answers : List Nat → List Bool → Prop
  | nil : Answers [] []
  | cons (t : Nat) (ok : Bool) (ts : List Nat) (oks : List Bool) :
      (ok = true ↔ ¬ Tainted T t) → Answers ts oks → Answers (t :: ts) (ok :: oks)

theorem ta_not_inflight {P : Nat → Prop} {k : Nat} (h : TaintedAvoiding T P k) : ¬ P k := by
  cases h with
  | bad _ hp _ => exact hp
  | child _ _ hp _ _ => exact hp

/-- cut a taint path after its last visit to `t` -/
theorem ta_split (P : Nat → Prop) (t : Nat) (hgood : ¬ T.bad t) : ∀ k, TaintedAvoiding T P k →
    TaintedAvoiding T (fun x => P x ∨ x = t) k ∨
      Reach T k t ∧ ∃ c, c ∈ T.children t ∧ TaintedAvoiding T (fun x => P x ∨ x = t) c := by
  intro k h
  induction h with
  | bad k hp hb =>
    by_cases hk : k = t
    · exact absurd (hk ▸ hb) hgood
    · exact .inl (.bad k (fun h => h.elim hp hk) hb)
  | child k c hp hc _ ih =>
    rcases ih with h1 | ⟨hr, h2⟩
    · by_cases hk : k = t
      · exact .inr ⟨hk ▸ .refl k, c, hk ▸ hc, h1⟩
      · exact .inl (.child k c (fun h => h.elim hp hk) hc h1)
    · exact .inr ⟨.step k c t hc hr, h2⟩

theorem ta_mono {P P' : Nat → Prop} (hpp : ∀ x, P x → P' x) : ∀ k, TaintedAvoiding T P' k → TaintedAvoiding T P k := by
  intro k h
  induction h with
  | bad k hp hb => exact .bad k (fun h => hp (hpp k h)) hb
  | child k c hp hc _ ih => exact .child k c (fun h => hp (hpp k h)) hc ih

theorem Sound.inflight {F P : Nat → Prop} (hs : Sound T F P) (t : Nat) : Sound T F (fun k => P k ∨ k = t) :=
  fun k hk hta => hs k hk (ta_mono T (fun _ hx => .inl hx) k hta)

def GenSpec (F P : Nat → Prop) (t : Nat) (F' : Nat → Prop) (ok : Bool) : Prop :=
  (ok = false → TaintedAvoiding T P t) ∧
  (Sound T F P → Sound T F' P ∧ (ok = true → ¬ TaintedAvoiding T P t))

def GenListSpec (F P : Nat → Prop) (cs : List Nat) (F' : Nat → Prop) (ok : Bool) : Prop :=
  (ok = false → ∃ c, c ∈ cs ∧ TaintedAvoiding T P c) ∧
  (Sound T F P → Sound T F' P ∧ (ok = true → ∀ c, c ∈ cs → ¬ TaintedAvoiding T P c))

theorem gen_spec :
    (∀ {F P : Nat → Prop} {t : Nat} {F' : Nat → Prop} {ok : Bool}, Gen T F P t F' ok → GenSpec T F P t F' ok) ∧
    (∀ {F P : Nat → Prop} {cs : List Nat} {F' : Nat → Prop} {ok : Bool}, GenList T F P cs F' ok →
      GenListSpec T F P cs F' ok) := by
  -- the recursors of the two relations take the same seven cases (a `mutual` pair of theorems by
  -- structural recursion over inductive predicates is slow to check)
  refine ⟨@Gen.rec T (fun F P t F' ok _ => GenSpec T F P t F' ok) (fun F P cs F' ok _ => GenListSpec T F P cs F' ok)
      ?hit ?unsupported ?stored ?failed ?nil ?cons_ok ?cons_fail,
    @GenList.rec T (fun F P t F' ok _ => GenSpec T F P t F' ok) (fun F P cs F' ok _ => GenListSpec T F P cs F' ok)
      ?hit ?unsupported ?stored ?failed ?nil ?cons_ok ?cons_fail⟩
  case hit =>
    intro F P t h
    exact ⟨nofun, fun hs => ⟨hs, fun _ hta => h.elim (fun hF => hs t hF hta) (ta_not_inflight T hta)⟩⟩
  case unsupported =>
    intro F P t _ hnp hb
    exact ⟨fun _ => .bad t hnp hb, fun hs => ⟨fun k hk => hs k hk.1, nofun⟩⟩
  case stored =>
    intro F P F' t _ hnp hgood _ ihl
    refine ⟨nofun, fun hs => ?_⟩
    have ⟨ih, hcs⟩ := ihl.2 (hs.inflight T t)
    -- no component of `t` is tainted, so a taint path that avoids `P` does not pass through `t`
    have key : ∀ k, TaintedAvoiding T P k → TaintedAvoiding T (fun x => P x ∨ x = t) k := by
      intro k hta
      rcases ta_split T P t hgood k hta with h1 | ⟨-, c, hc, h2⟩
      · exact h1
      · exact absurd h2 (hcs rfl c hc)
    refine ⟨fun k hk hta => ?_, fun _ hta => ta_not_inflight T (key t hta) (.inr rfl)⟩
    rcases hk with hk | hk
    · exact ih k hk (key k hta)
    · exact ta_not_inflight T (key k hta) (.inr hk)
  case failed =>
    intro F P F' t _ hnp hgood _ ihl
    refine ⟨fun _ => ?_, fun hs => ⟨fun k hk hta => ?_, nofun⟩⟩
    · have ⟨c, hc, hta⟩ := ihl.1 rfl
      exact .child t c hnp hc (ta_mono T (fun _ => .inl) c hta)
    · have ih := (ihl.2 (hs.inflight T t)).1
      rcases ta_split T P t hgood k hta with h1 | ⟨h2, -⟩
      · exact ih k hk.1 h1
      · exact hk.2 h2
  case nil => exact fun F P => ⟨nofun, fun hs => ⟨hs, fun _ _ h => nomatch h⟩⟩
  case cons_ok =>
    intro F P F1 F2 c cs ok _ _ ihg ihl
    refine ⟨fun hok => ?_, fun hs => ?_⟩
    · have ⟨c', hc', h⟩ := ihl.1 hok
      exact ⟨c', List.mem_cons_of_mem c hc', h⟩
    · have ⟨h1, hc⟩ := ihg.2 hs
      have ⟨h2, hcs⟩ := ihl.2 h1
      exact ⟨h2, fun hok c' hc' => match hc' with
        | .head _ => hc rfl
        | .tail _ h => hcs hok c' h⟩
  case cons_fail =>
    intro F P F1 c cs _ ihg
    exact ⟨fun _ => ⟨c, List.mem_cons_self, ihg.1 rfl⟩, fun hs => ⟨(ihg.2 hs).1, nofun⟩⟩

theorem genList_sound : ∀ {F P : Nat → Prop} {cs : List Nat} {F' : Nat → Prop} {ok : Bool}, GenList T F P cs F' ok →
    Sound T F P → Sound T F' P :=
  fun h hs => (((gen_spec T).2 h).2 hs).1

theorem ta_of_tainted {k : Nat} (h : Tainted T k) : TaintedAvoiding T noneInFlight k := by
  induction h with
  | bad k hb => exact .bad k (fun h => h) hb
  | child k c hc _ ih => exact .child k c (fun h => h) hc ih

theorem tainted_of_ta {P : Nat → Prop} {k : Nat} (h : TaintedAvoiding T P k) : Tainted T k := by
  induction h with
  | bad k _ hb => exact .bad k hb
  | child k c _ hc _ ih => exact .child k c hc ih

theorem genList_fail_tainted : ∀ {F P : Nat → Prop} {cs : List Nat} {F' : Nat → Prop} {ok : Bool}, GenList T F P cs F' ok → ok = false →
    ∃ c, c ∈ cs ∧ Tainted T c :=
  fun h hok =>
    have ⟨c, hc, hta⟩ := ((gen_spec T).2 h).1 hok
    ⟨c, hc, tainted_of_ta T hta⟩

/-- one request between documents: nothing is in flight -/
theorem request_like_fresh (F F' : Nat → Prop) (t : Nat) (ok : Bool)
    (hs : Sound T F noneInFlight) (hg : Gen T F noneInFlight t F' ok) :
    (ok = true ↔ ¬ Tainted T t) ∧ Sound T F' noneInFlight := by
  have ⟨hfail, hsound⟩ := (gen_spec T).1 hg
  have ⟨hs', hok⟩ := hsound hs
  refine ⟨⟨fun h htaint => hok h (ta_of_tainted T htaint), fun hnt => ?_⟩, hs'⟩
  cases ok with
  | true => rfl
  | false => exact absurd (tainted_of_ta T (hfail rfl)) hnt

theorem history_like_fresh {F : Nat → Prop} {ts : List Nat} {F' : Nat → Prop} {oks : List Bool}
    (h : History T F ts F' oks) : Sound T F noneInFlight → Sound T F' noneInFlight ∧ Answers T ts oks := by
  induction h with
  | nil F => exact fun hs => ⟨hs, .nil⟩
  | cons F F1 F2 t ts ok oks hg _ ih =>
    intro hs
    have h1 := request_like_fresh T F F1 t ok hs hg
    have h2 := ih h1.2
    exact ⟨h2.1, .cons t ok ts oks h1.1 h2.2⟩

theorem empty_cache_sound : Sound T (fun _ => False) noneInFlight := fun _ h => h.elim

end CE.Cache.Multi

import CE.Cte.ArrEngine
/-
  `groups w bs` is the one way to write `bs` as w-byte elements followed by less than an element
  (`groups_unique`); the engine keeps, between calls, such a division of the bytes received so far
  (`Inv`), so what it has emitted is `groups` of those bytes.
  `blocks` is the recursion of `Arr.fromLEAux` (`(blocks w n bs).map leNat`); CE/Arr/LE.lean has the
  matching lemmas.
-/
namespace CE.Cte.ArrEngine
open CE

theorem length_flatten_of_all {w : Nat} : ∀ {L : List Bytes}, (∀ b ∈ L, b.length = w) →
    L.flatten.length = L.length * w
  | [], _ => by simp
  | b :: L, h => by
    rw [List.flatten_cons, List.length_append, h b List.mem_cons_self,
      length_flatten_of_all fun c hc => h c (List.mem_cons_of_mem _ hc), List.length_cons, Nat.succ_mul,
      Nat.add_comm]

theorem blocks_flatten_append {w : Nat} (r : Bytes) : ∀ {L : List Bytes}, (∀ b ∈ L, b.length = w) →
    blocks w L.length (L.flatten ++ r) = L
  | [], _ => rfl
  | b :: L, h => by
    have hb := h b List.mem_cons_self
    rw [List.length_cons, blocks, List.flatten_cons, List.append_assoc, List.take_left' hb, List.drop_left' hb,
      blocks_flatten_append r fun c hc => h c (List.mem_cons_of_mem _ hc)]

theorem groups_unique {w : Nat} (hw : 0 < w) {L : List Bytes} {r : Bytes} (hL : ∀ b ∈ L, b.length = w)
    (hr : r.length < w) : groups w (L.flatten ++ r) = (L, r) := by
  have hlen : (L.flatten ++ r).length / w = L.length := by
    rw [List.length_append, length_flatten_of_all hL, Nat.add_comm, Nat.add_mul_div_right _ _ hw,
      Nat.div_eq_of_lt hr, Nat.zero_add]
  rw [groups, hlen, blocks_flatten_append r hL, ← length_flatten_of_all hL, List.drop_left]

theorem blocks_length {w : Nat} : ∀ (n : Nat) (bs : Bytes), n * w ≤ bs.length → ∀ b ∈ blocks w n bs, b.length = w
  | 0, _, _, _, hb => nomatch hb
  | n + 1, bs, h, b, hb => by
    rw [Nat.succ_mul] at h
    rw [blocks, List.mem_cons] at hb
    rcases hb with rfl | hb
    · rw [List.length_take]; exact Nat.min_eq_left (Nat.le_trans (Nat.le_add_left ..) h)
    · exact blocks_length n (bs.drop w) (by rw [List.length_drop]; exact Nat.le_sub_of_add_le h) b hb

theorem blocks_flatten (w : Nat) : ∀ (n : Nat) (bs : Bytes), n * w ≤ bs.length →
    (blocks w n bs).flatten = bs.take (n * w)
  | 0, bs, _ => by simp [blocks]
  | n + 1, bs, h => by
    rw [Nat.succ_mul] at h
    rw [blocks, List.flatten_cons, blocks_flatten w n (bs.drop w) (by rw [List.length_drop]; exact Nat.le_sub_of_add_le h),
      Nat.succ_mul, Nat.add_comm (n * w) w, List.take_add]

/-- what one call emits from fresh data (`m` is Go's `len(data) - rem`): whole elements, then
    less than one, and together they are the data -/
theorem fresh_data_spec {w : Nat} (hw : 0 < w) (d : Bytes) (m : Nat) (hm : m = d.length - d.length % w) :
    (∀ b ∈ blocks w (m / w) (d.take m), b.length = w) ∧ (d.drop m).length < w ∧
    (blocks w (m / w) (d.take m)).flatten ++ d.drop m = d := by
  have hmw : m = w * (d.length / w) := hm ▸ Nat.sub_eq_of_eq_add (Nat.div_add_mod d.length w).symm
  have hk : m / w * w = m := by rw [hmw, Nat.mul_div_cancel_left _ hw, Nat.mul_comm]
  have hml : m ≤ d.length := hm ▸ Nat.sub_le ..
  have htl : m / w * w ≤ (d.take m).length := by rw [hk, List.length_take]; exact Nat.le_min.2 ⟨Nat.le_refl m, hml⟩
  refine ⟨blocks_length _ _ htl, ?_, ?_⟩
  · rw [List.length_drop, hm, Nat.sub_sub_self (Nat.mod_le ..)]
    exact Nat.mod_lt d.length hw
  · rw [blocks_flatten w _ _ htl, hk, List.take_take, Nat.min_self, List.take_append_drop]

/-- what holds between calls, `bs` being the bytes received so far -/
structure Inv (w : Nat) (s : St) (bs : Bytes) : Prop where
  elems : ∀ b ∈ s.out, b.length = w
  short : s.leftover.length < w
  all : s.out.flatten ++ s.leftover = bs

theorem addData_inv {w : Nat} (hw : 0 < w) {s : St} {bs : Bytes} (h : Inv w s bs) (d : Bytes) :
    Inv w (addData w s d) (bs ++ d) := by
  obtain ⟨he, hs, ha⟩ := h
  unfold addData
  by_cases hl : s.leftover.length > 0
  · rw [if_pos hl]
    dsimp only
    by_cases hd : d.length < w - s.leftover.length
    · rw [if_pos hd]
      exact ⟨he, by rw [List.length_append]; exact Nat.add_lt_of_lt_sub' hd, by rw [← List.append_assoc, ha]⟩
    · rw [if_neg hd]
      obtain ⟨e1, e2, e3⟩ := fresh_data_spec hw (d.drop (w - s.leftover.length)) _ rfl
      refine ⟨?_, e2, ?_⟩
      · intro b hb
        simp only [List.mem_append, List.mem_singleton] at hb
        rcases hb with (hb | rfl) | hb
        · exact he b hb
        · rw [List.length_append, List.length_take, Nat.min_eq_left (Nat.le_of_not_lt hd),
            Nat.add_sub_cancel' (Nat.le_of_lt hs)]
        · exact e1 b hb
      · simp only [List.flatten_append, List.flatten_cons, List.flatten_nil, List.append_nil, List.append_assoc]
        rw [e3, List.take_append_drop, ← List.append_assoc, ha]
  · rw [if_neg hl]
    have hnil : s.leftover = [] := List.eq_nil_of_length_eq_zero (Nat.eq_zero_of_not_pos hl)
    obtain ⟨e1, e2, e3⟩ := fresh_data_spec hw d _ rfl
    refine ⟨?_, e2, ?_⟩
    · intro b hb
      rcases List.mem_append.1 hb with hb | hb
      · exact he b hb
      · exact e1 b hb
    · rw [List.flatten_append, List.append_assoc, e3, ← ha, hnil, List.append_nil]

theorem foldl_addData_inv {w : Nat} (hw : 0 < w) : ∀ (ds : List Bytes) {s : St} {bs : Bytes}, Inv w s bs →
    Inv w (ds.foldl (addData w) s) (bs ++ ds.flatten)
  | [], _, _, h => by rwa [List.flatten_nil, List.append_nil]
  | d :: ds, _, _, h => by
    rw [List.foldl_cons, List.flatten_cons, ← List.append_assoc]
    exact foldl_addData_inv hw ds (addData_inv hw h d)

theorem feed_inv {w : Nat} (hw : 0 < w) (ds : List Bytes) : Inv w (feed w ds) ds.flatten :=
  foldl_addData_inv hw ds (s := {}) (bs := []) ⟨nofun, hw, rfl⟩

end CE.Cte.ArrEngine

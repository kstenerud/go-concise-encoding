import CE.Cte.ArrFmt
/-
  Digit lemmas: writing a natural number in base b (2 ≤ b ≤ 16) and reading it back, with
  leading zeros.
-/
namespace CE.Cte.ArrFmt

theorem digitChar_table : ∀ d : Fin 16,
    digitVal (digitChar d.val) = some d.val ∧ (d.val ≠ 0 → digitChar d.val ≠ '0') := by decide +kernel

theorem digitVal_digitChar (d : Nat) (h : d < 16) : digitVal (digitChar d) = some d :=
  (digitChar_table ⟨d, h⟩).1

theorem parseDigits_append (b : Nat) : ∀ (l1 l2 : List Char) (acc : Nat),
    parseDigits b (l1 ++ l2) acc = (parseDigits b l1 acc).bind (parseDigits b l2) := by
  intro l1
  induction l1 with
  | nil => intro l2 acc; simp [parseDigits]
  | cons c cs ih =>
    intro l2 acc
    simp only [List.cons_append, parseDigits]
    cases digitVal c with
    | none => simp
    | some d => by_cases h : d < b <;> simp [h, ih]

theorem parseDigits_zeros (b : Nat) (hb : 0 < b) (k : Nat) (l : List Char) :
    parseDigits b (List.replicate k '0' ++ l) 0 = parseDigits b l 0 := by
  induction k with
  | zero => simp
  | succ k ih =>
    simp only [List.replicate_succ, List.cons_append, parseDigits]
    have : digitVal '0' = some 0 := by decide
    simp [this, hb, ih]

/-- `s` is a way of writing `n` in base `b`: digits below `b`, at least one, with positional value `n` -/
structure Numeral (b n : Nat) (s : List Char) : Prop where
  ne_nil : s ≠ []
  digit : ∀ c ∈ s, ∃ d < b, c = digitChar d
  value : parseDigits b s 0 = some n

theorem Numeral.single {b d : Nat} (hd : d < b) (hb16 : b ≤ 16) : Numeral b d [digitChar d] :=
  ⟨List.cons_ne_nil _ _, fun c hc => ⟨d, hd, List.mem_singleton.mp hc⟩, by
    simp [parseDigits, digitVal_digitChar d (by omega), hd]⟩

theorem Numeral.snoc {b q d : Nat} {s : List Char} (h : Numeral b q s) (hd : d < b) (hb16 : b ≤ 16) :
    Numeral b (q * b + d) (s ++ [digitChar d]) where
  ne_nil := fun e => h.ne_nil (List.append_eq_nil_iff.mp e).1
  digit := fun c hc => (List.mem_append.mp hc).elim (h.digit c) fun hc => ⟨d, hd, List.mem_singleton.mp hc⟩
  value := by simp [parseDigits_append, h.value, parseDigits, digitVal_digitChar d (by omega), hd]

theorem Numeral.zeros {b n : Nat} {s : List Char} (h : Numeral b n s) (hb : 0 < b) (k : Nat) :
    Numeral b n (List.replicate k '0' ++ s) where
  ne_nil := fun e => h.ne_nil (List.append_eq_nil_iff.mp e).2
  digit := fun c hc => (List.mem_append.mp hc).elim (fun hc => ⟨0, hb, List.eq_of_mem_replicate hc⟩) (h.digit c)
  value := by rw [parseDigits_zeros b hb, h.value]

/-- how `natDigits` writes a number, with neither fuel nor accumulator: one digit, or the digits of the
    quotient and then one more -/
theorem natDigits_induct {b : Nat} (hb : 2 ≤ b) {P : Nat → List Char → Prop}
    (single : ∀ d, d < b → P d [digitChar d])
    (snoc : ∀ q d s, 0 < q → d < b → P q s → P (q * b + d) (s ++ [digitChar d])) (n : Nat) :
    P n (natDigits b n) := by
  -- with an accumulator, the writer puts such a string in front of it
  suffices ∀ fuel n acc, n < fuel → ∃ s, natDigitsAux b fuel n acc = s ++ acc ∧ P n s by
    obtain ⟨s, hs, hP⟩ := this (n + 1) n [] (by omega)
    rwa [natDigits, hs, List.append_nil]
  intro fuel
  induction fuel with
  | zero => intro n _ hf; omega
  | succ f ih =>
    intro n acc hf
    rw [natDigitsAux]
    split
    · next hn => exact ⟨_, rfl, single n hn⟩
    · next hn =>
      have hb0 : 0 < b := Nat.lt_of_lt_of_le Nat.zero_lt_two hb
      have hbn : b ≤ n := Nat.le_of_not_lt hn
      have hdiv : n / b < n := Nat.div_lt_self (Nat.lt_of_lt_of_le hb0 hbn) hb
      obtain ⟨s, hs, hP⟩ := ih (n / b) (digitChar (n % b) :: acc) (Nat.lt_of_lt_of_le hdiv (Nat.le_of_lt_succ hf))
      refine ⟨s ++ [digitChar (n % b)], by rw [hs, List.append_assoc]; rfl, ?_⟩
      have := snoc _ _ _ (Nat.div_pos hbn hb0) (Nat.mod_lt n hb0) hP
      rwa [Nat.div_add_mod'] at this

theorem numeral_natDigits (b : Nat) (hb : 2 ≤ b) (hb16 : b ≤ 16) (n : Nat) : Numeral b n (natDigits b n) :=
  natDigits_induct hb (fun _ hd => .single hd hb16) (fun _ _ _ _ hd h => h.snoc hd hb16) n

theorem numeral_leftPad_natDigits (b : Nat) (hb : 2 ≤ b) (hb16 : b ≤ 16) (w n : Nat) :
    Numeral b n (leftPad w (natDigits b n)) :=
  (numeral_natDigits b hb hb16 n).zeros (by omega) _

theorem Numeral.parseNat {b n : Nat} {s : List Char} (h : Numeral b n s) : parseNat b s = some n := by
  rw [ArrFmt.parseNat, List.isEmpty_eq_false_iff.mpr h.ne_nil]; exact h.value

theorem natDigits_head (b : Nat) (hb : 2 ≤ b) (hb16 : b ≤ 16) (n : Nat) :
    0 < n → ∃ c cs, natDigits b n = c :: cs ∧ c ≠ '0' := by
  refine natDigits_induct (P := fun n s => 0 < n → ∃ c cs, s = c :: cs ∧ c ≠ '0') hb
    (fun d hd h0 => ?_) (fun q d s hq _ ih _ => ?_) n
  · exact ⟨_, [], rfl, (digitChar_table ⟨d, by omega⟩).2 (Nat.ne_of_gt h0)⟩
  · obtain ⟨c, cs, rfl, hc⟩ := ih hq
    exact ⟨c, cs ++ [digitChar d], rfl, hc⟩

/-- the sixteen digit characters are none of the characters that mean something else in or around a number -/
theorem digitChar_plain : ∀ d : Fin 16,
    digitChar d.val ≠ '-' ∧ digitChar d.val ≠ '+' ∧ digitChar d.val ≠ '_' ∧ digitChar d.val ≠ ']' := by
  decide +kernel

theorem Numeral.plain {b n : Nat} {s : List Char} (h : Numeral b n s) (hb16 : b ≤ 16) (c : Char) (hc : c ∈ s) :
    c ≠ '-' ∧ c ≠ '+' ∧ c ≠ '_' ∧ c ≠ ']' := by
  obtain ⟨d, hd, rfl⟩ := h.digit c hc
  exact digitChar_plain ⟨d, by omega⟩

theorem leftPad_zero (l : List Char) : leftPad 0 l = l := by simp [leftPad]

theorem parseUintBase_zero (c : Char) (cs : List Char) (hc : c ≠ '0') :
    parseUintBase 0 (c :: cs) = parseNat 10 (c :: cs) := by
  unfold parseUintBase
  split
  · -- every alternative but the last starts with `0`
    split <;> first | rfl | (rename_i h; cases h; exact absurd rfl hc)
  · omega

theorem parseUintBase_pos (b : Nat) (hb : b ≠ 0) (s : List Char) : parseUintBase b s = parseNat b s := by
  unfold parseUintBase; rw [if_neg hb]

end CE.Cte.ArrFmt

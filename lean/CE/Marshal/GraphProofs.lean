import CE.Marshal.Graph
/-
  C20's proofs.  `emit_induct` is induction over the successful runs of the three emission functions, the
  failing branches dealt with once; the marker discipline of an emitted stream (`wf`, `knownAfter`), from a
  specification in continuation form (`Spec`), and the monotonicity in the fuel are two uses of it.
-/
namespace CE.Marshal.Graph

/-- marker discipline of an event sequence, given the pointers already named: a marker names a
    pointer not named before; a reference names a pointer already named -/
def wf : List Nat → List GEv → Bool
  | _, [] => true
  | known, .marker i :: rest => !known.contains i && wf (i :: known) rest
  | known, .ref r :: rest => known.contains r && wf known rest
  | known, _ :: rest => wf known rest

def knownAfter : List Nat → List GEv → List Nat
  | known, [] => known
  | known, .marker i :: rest => knownAfter (i :: known) rest
  | known, _ :: rest => knownAfter known rest

/-- one premise per way of succeeding; the motives see the fuel, which `emit_fuel_succ` speaks of -/
theorem emit_induct (h : Heap) (shared : Nat → Bool)
    {P B : Nat → List Nat → Nat → List GEv × List Nat → Prop}
    {E : Nat → List Nat → List (Option Nat) → List GEv × List Nat → Prop}
    (ref : ∀ {f named i}, shared i = true → named.contains i = true → P (f + 1) named i ([.ref i], named))
    (mark : ∀ {f named i r}, shared i = true → ¬ named.contains i = true → B f (i :: named) i r →
      P (f + 1) named i (.marker i :: r.1, r.2))
    (plain : ∀ {f named i r}, ¬ shared i = true → B f named i r → P (f + 1) named i r)
    (leaf : ∀ {f named i o1 n1}, E f named (h i).ptrs (o1, n1) → (h i).kids = none →
      B (f + 1) named i (.node i :: o1 ++ [.null, .endNode], n1))
    (kids : ∀ {f named i o1 n1 ks o2 n2}, E f named (h i).ptrs (o1, n1) → (h i).kids = some ks → E f n1 ks (o2, n2) →
      B (f + 1) named i (.node i :: o1 ++ [.list] ++ o2 ++ [.endList, .endNode], n2))
    (nil : ∀ {f named}, E (f + 1) named [] ([], named))
    (null : ∀ {f named es r}, E f named es r → E (f + 1) named (none :: es) (.null :: r.1, r.2))
    (ptr : ∀ {f named j es o1 n1 r}, P f named j (o1, n1) → E f n1 es r →
      E (f + 1) named (some j :: es) (o1 ++ r.1, r.2)) :
    (∀ fuel named i r, emitPtr h shared fuel named i = some r → P fuel named i r) ∧
    (∀ fuel named i r, emitBody h shared fuel named i = some r → B fuel named i r) ∧
    (∀ fuel named es r, emitEdges h shared fuel named es = some r → E fuel named es r) := by
  -- the cases of the three definitions: 1-4 `emitPtr`, 5-9 `emitBody`, 10-14 `emitEdges`; 1, 5, 6, 8, 10, 13 fail
  apply emitPtr.mutual_induct h shared
  case case1 | case5 | case10 => intro _ _ _ hh; simp [emitPtr, emitBody, emitEdges] at hh
  case case2 =>
    intro f named i hs hn r hh
    simp only [emitPtr, hs, hn, if_true, Option.some.injEq] at hh
    exact hh ▸ ref hs hn
  case case3 =>
    intro f named i hs hn ih r hh
    simp only [emitPtr, hs, hn, if_true, Bool.false_eq_true, if_false, Option.map_eq_some_iff] at hh
    obtain ⟨rb, hb, rfl⟩ := hh
    exact mark hs hn (ih rb hb)
  case case4 =>
    intro f named i hs ih r hh
    simp only [emitPtr, hs] at hh
    exact plain hs (ih r hh)
  case case6 => intro f named i h1 _ _ hh; simp [emitBody, h1] at hh
  case case7 =>
    intro f named i o1 n1 h1 hk ih r hh
    simp only [emitBody, h1, hk, Option.some.injEq] at hh
    exact hh ▸ leaf (ih _ h1) hk
  case case8 => intro f named i o1 n1 h1 ks hk h2 _ _ _ hh; simp [emitBody, h1, hk, h2] at hh
  case case9 =>
    intro f named i o1 n1 h1 ks hk o2 n2 h2 ih1 ih2 r hh
    simp only [emitBody, h1, hk, h2, Option.some.injEq] at hh
    exact hh ▸ kids (ih1 _ h1) hk (ih2 _ h2)
  case case11 =>
    intro f named r hh
    simp only [emitEdges, Option.some.injEq] at hh
    exact hh ▸ nil
  case case12 =>
    intro f named es ih r hh
    simp only [emitEdges, Option.map_eq_some_iff] at hh
    obtain ⟨rb, hb, rfl⟩ := hh
    exact null (ih rb hb)
  case case13 => intro f named j es h1 _ _ hh; simp [emitEdges, h1] at hh
  case case14 =>
    intro f named j es o1 n1 h1 ih1 ih2 r hh
    simp only [emitEdges, h1, Option.map_eq_some_iff] at hh
    obtain ⟨rb, hb, rfl⟩ := hh
    exact ptr (ih1 _ h1) (ih2 rb hb)

/-- a successful emission as a prefix of any stream: checking `out ++ rest` from `named` is checking
    `rest` from the returned list, which is the known list after `out` -/
def Spec (named : List Nat) (r : List GEv × List Nat) : Prop :=
  ∀ rest, wf named (r.1 ++ rest) = wf r.2 rest ∧ knownAfter named (r.1 ++ rest) = knownAfter r.2 rest

theorem emit_spec (h : Heap) (shared : Nat → Bool) :
    (∀ fuel named i r, emitPtr h shared fuel named i = some r → Spec named r) ∧
    (∀ fuel named i r, emitBody h shared fuel named i = some r → Spec named r) ∧
    (∀ fuel named es r, emitEdges h shared fuel named es = some r → Spec named r) := by
  refine emit_induct h shared (P := fun _ named _ r => Spec named r) (B := fun _ named _ r => Spec named r)
    (E := fun _ named _ r => Spec named r) ?_ ?_ ?_ ?_ ?_ ?_ ?_ ?_
  · intro _ named i _ hn rest
    simp only [List.cons_append, List.nil_append, wf, knownAfter, hn, Bool.true_and, and_self]
  · intro _ named i r _ hn ih rest
    simp only [List.cons_append, wf, knownAfter, hn, ih rest, Bool.not_false, Bool.true_and, and_self]
  · exact fun _ ih => ih
  · intro _ named i o1 n1 ih _ rest
    simp only [List.cons_append, List.append_assoc, List.nil_append, wf, knownAfter, ih _, and_self]
  · intro _ named i o1 n1 ks o2 n2 ih1 _ ih2 rest
    simp only [List.cons_append, List.append_assoc, List.nil_append, wf, knownAfter, ih1 _, ih2 _, and_self]
  · exact fun _ => ⟨rfl, rfl⟩
  · exact fun ih rest => ih rest
  · intro _ named j es o1 n1 r ih1 ih2 rest
    simp only [List.append_assoc, ih1 _, ih2 _, and_self]

theorem Spec.whole {named : List Nat} {r : List GEv × List Nat} (hs : Spec named r) :
    wf named r.1 = true ∧ r.2 = knownAfter named r.1 := by
  have := hs []
  simp only [List.append_nil, wf, knownAfter] at this
  exact ⟨this.1, this.2.symm⟩

theorem emit_fuel_succ (h : Heap) (shared : Nat → Bool) : ∀ fuel : Nat,
    (∀ named i r, emitPtr h shared fuel named i = some r → emitPtr h shared (fuel + 1) named i = some r) ∧
    (∀ named i r, emitBody h shared fuel named i = some r → emitBody h shared (fuel + 1) named i = some r) ∧
    (∀ named es r, emitEdges h shared fuel named es = some r → emitEdges h shared (fuel + 1) named es = some r) := by
  -- each way of succeeding with `f + 1` is, by the induction hypotheses, a way of succeeding with `f + 2`
  have := emit_induct h shared (P := fun f named i r => emitPtr h shared (f + 1) named i = some r)
    (B := fun f named i r => emitBody h shared (f + 1) named i = some r)
    (E := fun f named es r => emitEdges h shared (f + 1) named es = some r)
    (fun hs hn => by simp only [emitPtr, hs, hn, if_true])
    (fun hs hn ih => by simp only [emitPtr, hs, hn, if_true, Bool.false_eq_true, if_false, ih, Option.map_some])
    (fun hs ih => by rw [emitPtr, if_neg hs, ih])
    (fun ih hk => by simp only [emitBody, ih, hk])
    (fun ih1 hk ih2 => by simp only [emitBody, ih1, hk, ih2])
    (by intros; rw [emitEdges])
    (fun ih => by simp only [emitEdges, ih, Option.map_some])
    (fun ih1 ih2 => by simp only [emitEdges, ih1, ih2, Option.map_some])
  exact fun fuel => ⟨this.1 fuel, this.2.1 fuel, this.2.2 fuel⟩

theorem emitPtr_fuel_le (h : Heap) (shared : Nat → Bool) (named : List Nat) (i : Nat) (r : List GEv × List Nat)
    {f1 f2 : Nat} (hle : f1 ≤ f2) (hh : emitPtr h shared f1 named i = some r) : emitPtr h shared f2 named i = some r := by
  induction hle with
  | refl => exact hh
  | step _ ih => exact (emit_fuel_succ h shared _).1 named i r ih

end CE.Marshal.Graph

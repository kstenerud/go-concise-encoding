import CE.Basic.Float
/-
  Narrowing a double to float32 and widening it again is the identity in the float32 normal range.
-/
namespace CE.F

/-- an infinity has mantissa zero, a NaN has not: the encoder tests for infinity first, `canonFloat` for NaN first -/
theorem isNaN64_of_isInf64 {b : Nat} (h : isInf64 b = true) : isNaN64 b = false := by
  simp only [isInf64, isNaN64, Bool.and_eq_true, beq_iff_eq] at h ⊢
  simp [h.1, h.2]

/-- any number is the sum of its three fields, the lower two of sizes `B` and `A` -/
theorem fields_sum (A B x : Nat) : x = x / B / A * (A * B) + x / B % A * B + x % B := by
  rw [← Nat.mul_assoc, ← Nat.add_mul, Nat.mul_comm (x / B / A) A, Nat.div_add_mod (x / B) A, Nat.mul_comm (x / B) B,
    Nat.div_add_mod]

/-- a word put together from three fields, the lower two of sizes `B` and `A`, has them -/
theorem fields (A B S e q : Nat) (he : e < A) (hq : q < B) :
    (S * (A * B) + e * B + q) / B / A = S ∧ (S * (A * B) + e * B + q) / B % A = e ∧
      (S * (A * B) + e * B + q) % B = q := by
  have hB : 0 < B := Nat.zero_lt_of_lt hq
  have hA : 0 < A := Nat.zero_lt_of_lt he
  have hx : S * (A * B) + e * B + q = q + (e + S * A) * B := by
    rw [Nat.add_comm _ q, Nat.add_mul, Nat.mul_assoc, Nat.add_comm (e * B)]
  rw [hx, Nat.add_mul_mod_self_right, Nat.mod_eq_of_lt hq, Nat.add_mul_div_right _ _ hB, Nat.div_eq_of_lt hq,
    Nat.zero_add, Nat.add_mul_mod_self_right, Nat.mod_eq_of_lt he, Nat.add_mul_div_right _ _ hA,
    Nat.div_eq_of_lt he, Nat.zero_add]
  exact ⟨rfl, rfl, rfl⟩

theorem decomp64 (b : Nat) (h : b < 2 ^ 64) : b = sign64 b * 2 ^ 63 + exp64 b * 2 ^ 52 + mant64 b := by
  unfold sign64 exp64 mant64
  -- fields of sizes 2 ^ 52 and 2048; what is above them is one bit
  have hs : b / 2 ^ 63 < 2 := Nat.div_lt_of_lt_mul h
  have hsum := fields_sum 2048 (2 ^ 52) b
  rw [Nat.div_div_eq_div_mul] at hsum
  rw [Nat.mod_eq_of_lt hs]
  exact hsum

theorem sign64_le (b : Nat) : sign64 b ≤ 1 := Nat.le_of_lt_succ (Nat.mod_lt _ (by decide))

theorem mant64_lt (b : Nat) : mant64 b < 2 ^ 52 := Nat.mod_lt _ (Nat.two_pow_pos 52)

/-- a binary32 word put together from its three fields has them -/
theorem narrow_fields (S e q x : Nat) (hS : S ≤ 1) (he : e < 256) (hq : q < 2 ^ 23)
    (hx : x = S * 2 ^ 31 + e * 2 ^ 23 + q) : x / 2 ^ 31 % 2 = S ∧ x / 2 ^ 23 % 256 = e ∧ x % 2 ^ 23 = q := by
  obtain ⟨h1, h2, h3⟩ := fields 256 (2 ^ 23) S e q he hq
  rw [hx, show 2 ^ 31 = 256 * 2 ^ 23 from rfl, Nat.mul_comm 256 (2 ^ 23), ← Nat.div_div_eq_div_mul,
    Nat.mul_comm (2 ^ 23) 256, h1, Nat.mod_eq_of_lt (Nat.lt_succ_of_le hS)]
  exact ⟨rfl, h2, h3⟩

theorem mul_div_29 (M : Nat) (hm : M % 2 ^ 29 = 0) : M = M / 2 ^ 29 * 2 ^ 29 :=
  (Nat.div_mul_cancel (Nat.dvd_of_mod_eq_zero hm)).symm

theorem div_29_lt (M : Nat) (h : M < 2 ^ 52) : M / 2 ^ 29 < 2 ^ 23 := by omega

/-- a double exponent in the float32 normal window: neither 0 nor 2047, and its float32 field is neither 0 nor 255
    and is re-biased back -/
theorem rebias {E : Nat} (h1 : 897 ≤ E) (h2 : E ≤ 1150) :
    ¬ (E = 0 ∨ E = 2047) ∧ ¬ E - 896 = 255 ∧ ¬ E - 896 = 0 ∧ E - 896 + 896 = E ∧ E - 896 < 256 := by
  omega

theorem widen_exact_normal (b s : Nat) (hb : b < 2 ^ 64) (he1 : 897 ≤ exp64 b) (he2 : exp64 b ≤ 1150)
    (h : exactF32? b = some s) : widen32 s = b := by
  unfold exactF32? at h
  obtain ⟨hne, g1, g2, hE, h256⟩ := rebias he1 he2
  simp only [hne, if_false, he1, he2, and_self, if_true] at h
  split at h
  · rename_i hm
    simp only [Option.some.injEq] at h
    subst h
    obtain ⟨f1, f2, f3⟩ := narrow_fields (sign64 b) (exp64 b - 896) (mant64 b / 2 ^ 29) _ (sign64_le b) h256
      (div_29_lt _ (mant64_lt b)) rfl
    unfold widen32 sign32 exp32 mant32
    simp only [f1, f2, f3, g1, g2, if_false, hE]
    rw [← mul_div_29 _ hm]
    exact (decomp64 b hb).symm
  · simp at h

theorem exactF32?_normal (b s : Nat) (h : exactF32? b = some s)
    (hsub : ¬ (874 ≤ exp64 b ∧ exp64 b < 897)) : 897 ≤ exp64 b ∧ exp64 b ≤ 1150 ∧ s < 2 ^ 32 := by
  unfold exactF32? at h
  by_cases h1 : exp64 b = 0 ∨ exp64 b = 2047
  · simp [h1] at h
  by_cases h2 : 897 ≤ exp64 b ∧ exp64 b ≤ 1150
  · refine ⟨h2.1, h2.2, ?_⟩
    simp only [h1, h2, and_self, if_false, if_true] at h
    split at h
    · simp only [Option.some.injEq] at h
      subst h
      have hsg := sign64_le b
      have hm := div_29_lt _ (mant64_lt b)
      generalize sign64 b = S at *
      generalize mant64 b / 2 ^ 29 = q at *
      generalize exp64 b = E at *
      omega
    · simp at h
  · simp [h1, h2, hsub] at h


end CE.F

import CE.Basic.Bytes
import CE.Basic.Uleb
import CE.Basic.Float
import CE.Event
import CE.Canon
import CE.Cbe.Tables
import CE.Cbe.Encode
import CE.Cbe.Decode
import CE.Driver
import CE.Basic.FloatProofs
import CE.Cbe.Reads
import CE.Cbe.Tokens
import CE.Cbe.Chunks
import CE.Cbe.Fragment
import CE.Cbe.Stream
import CE.Cbe.Items
import CE.Props.C01
import CE.Basic.Utf8
import CE.Rules.Types
import CE.Rules.Table
import CE.Rules.Machine
import CE.Gen.RuleTable
import CE.Gen.Check
import CE.Chars.Chars
import CE.Gen.Chars
import CE.Props.C10
import CE.Rules.Measure
import CE.Rules.ArraySplit
import CE.Rules.TextSplit
import CE.Rules.Basics
import CE.Rules.Runs
import CE.Rules.Effect
import CE.Rules.Markers
import CE.Rules.Keys
import CE.Rules.Limits
import CE.Rules.Masks
import CE.Basic.Utf8Stream
import CE.Props.C11
import CE.Props.C15
import CE.Props.C12
import CE.Props.C13
import CE.Props.C14
import CE.Cbe.Minimal
import CE.Props.C22
import CE.Gen.Api
import CE.Api.Dispatch
import CE.Props.C27
import CE.Io.Reader
import CE.Io.ReaderProofs
import CE.Io.Writer
import CE.Props.C28
import CE.Props.C29
import CE.Tree
import CE.Props.C06
import CE.Arr.LE
import CE.Props.C26
import CE.Conv.Int
import CE.Props.C19
import CE.Props.C18
import CE.Api.EntryPoints
import CE.Gen.EntryPoints
import CE.Gen.CheckEntry
import CE.Cbe.Fine
import CE.Cbe.Progress
import CE.Cbe.Prefix
import CE.Cbe.Cut
import CE.Props.C07
import CE.Cbe.Cost
import CE.Cbe.CostProofs
import CE.Props.C08
import CE.Props.C09
import CE.Cache.Model
import CE.Cache.Proofs
import CE.Cache.Multi
import CE.Cache.MultiProofs
import CE.Cache.Expect
import CE.Gen.Session
import CE.Gen.CheckSession
import CE.Props.C16
import CE.Props.C17
import CE.Cte.ArrFmt
import CE.Cte.Digits
import CE.Gen.CteFormats
import CE.Gen.CheckCte
import CE.Props.C25
import CE.Cte.Lit
import CE.Props.C24
import CE.Cte.ArrEngine
import CE.Cte.ArrEngineProofs
import CE.Props.C23
import CE.Marshal.Struct
import CE.Props.C21
import CE.Marshal.Graph
import CE.Marshal.GraphProofs
import CE.Props.C20
import CE.Cte.Escape
import CE.Props.C02
import CE.Props.C03
